/-
  Proofs.Cli — the command line of Jmes/Cli.lean has two outcomes: it prints nothing and fails, or every stage
  (argument count, Compile, reading the input, decoding it, Search, serialising) succeeded and it prints the result.
-/
import Jmes.Cli
namespace Jmes.Cli
variable {N : Type} [NumOps N]

theorem run_cases (cfg : Api.Config) (args : List Bytes) (input : Input) :
    ((run (N := N) cfg args input).stdout = [] ∧ (run (N := N) cfg args input).exit ≠ 0) ∨
    ∃ expr ast bytes doc result, args = [expr] ∧ (Api.compile cfg expr : Res (Node N)) = .ok ast ∧
      input.data = some bytes ∧ (Json.decode bytes : Option (Val N)) = some doc ∧
      Api.search cfg expr doc = .ok result ∧
      run (N := N) cfg args input = ⟨Json.encodeIndent 0 result ++ [0x0A], 0⟩ := by
  have hfail : fail.stdout = [] ∧ fail.exit ≠ 0 := ⟨rfl, by decide⟩
  have hpanic : (⟨[], 2⟩ : Result).stdout = [] ∧ (⟨[], 2⟩ : Result).exit ≠ 0 := ⟨rfl, by decide⟩
  unfold run
  split
  · rename_i expr
    split
    · rename_i ast hcompile
      split
      · exact .inl hfail
      · rename_i bytes hdata
        split
        · exact .inl hfail
        · rename_i doc hdecode
          split
          · rename_i result hsearch
            split
            · exact .inr ⟨expr, ast, bytes, doc, result, rfl, hcompile, hdata, hdecode, hsearch, rfl⟩
            · exact .inl hfail
          · exact .inl hfail
          · exact .inl hpanic
    · exact .inl hfail
    · exact .inl hpanic
  · exact .inl hfail

end Jmes.Cli
