/-
  Proofs.Value — facts about values: `deepEq` (reflect.DeepEqual on decoded
  JSON) is structural equality whenever `==` on numbers is equality; and what
  `lookup` / `insert` (`m[k]`, `m[k] = v` on a map) do to each other.
-/
import Jmes.Value
namespace Jmes.Val
variable {N : Type} [NumOps N] [NumLaws N]

mutual
theorem deepEq_iff : ∀ a b : Val N, deepEq a b = true ↔ a = b
  | .null, b | .bool x, b | .str x, b => by cases b <;> simp [deepEq]
  | .num x, b => by cases b <;> simp [deepEq, NumLaws.eq_iff]
  | .arr xs, b => by
    cases b with
    | arr ys => simp only [deepEq, arr.injEq]; exact deepEqList_iff xs ys
    | _ => simp [deepEq]
  | .obj xs, b => by
    cases b with
    | obj ys => simp only [deepEq, obj.injEq]; exact deepEqKVs_iff xs ys
    | _ => simp [deepEq]
theorem deepEqList_iff : ∀ xs ys : List (Val N), deepEqList xs ys = true ↔ xs = ys
  | [], ys => by cases ys <;> simp [deepEqList]
  | x :: xs, ys => by
    cases ys with
    | nil => simp [deepEqList]
    | cons y ys => simp [deepEqList, deepEq_iff x y, deepEqList_iff xs ys]
theorem deepEqKVs_iff : ∀ xs ys : List (Bytes × Val N), deepEqKVs xs ys = true ↔ xs = ys
  | [], ys => by cases ys <;> simp [deepEqKVs]
  | (k, x) :: xs, ys => by
    cases ys with
    | nil => simp [deepEqKVs]
    | cons y ys =>
      obtain ⟨l, y⟩ := y
      simp [deepEqKVs, deepEq_iff x y, deepEqKVs_iff xs ys, and_assoc]
end

section lookups
omit [NumOps N] [NumLaws N]

theorem lookup_eq_none_iff (j : Bytes) : ∀ l : List (Bytes × Val N), lookup j l = none ↔ ∀ p ∈ l, p.1 ≠ j
  | [] => by simp [lookup]
  | (k, v) :: rest => by
    rw [lookup, List.forall_mem_cons]
    by_cases hk : k = j
    · rw [if_pos hk]
      exact iff_of_false nofun fun h => h.1 hk
    · rw [if_neg hk, lookup_eq_none_iff j rest]
      exact (and_iff_right hk).symm

theorem mem_of_lookup {j : Bytes} {v : Val N} : ∀ {l : List (Bytes × Val N)}, lookup j l = some v → (j, v) ∈ l
  | (k, w) :: rest, h => by
    simp only [lookup] at h
    split at h
    · cases h
      rename_i hk
      exact hk ▸ List.mem_cons_self ..
    · exact List.mem_cons_of_mem _ (mem_of_lookup h)

theorem lookup_append_single (j k : Bytes) (v : Val N) : ∀ l : List (Bytes × Val N),
    lookup j (l ++ [(k, v)]) = (lookup j l).or (if k = j then some v else none)
  | [] => by simp [lookup]
  | (pk, pv) :: ps => by
    simp only [List.cons_append, lookup]
    split
    · rfl
    · exact lookup_append_single j k v ps

theorem lookup_reverse_of_distinct (j : Bytes) : ∀ l : List (Bytes × Val N),
    l.Pairwise (fun p q => p.1 ≠ q.1) → lookup j l.reverse = lookup j l
  | [], _ => rfl
  | (k, v) :: rest, h => by
    rw [List.pairwise_cons] at h
    rw [List.reverse_cons, lookup_append_single, lookup_reverse_of_distinct j rest h.2]
    simp only [lookup]
    split
    · rename_i hk
      rw [(lookup_eq_none_iff j rest).mpr fun p hp e => h.1 p hp (hk.trans e.symm)]
      rfl
    · cases lookup j rest <;> rfl

theorem lookup_insert_same (k : Bytes) (v : Val N) : ∀ l : List (Bytes × Val N), lookup k (insert k v l) = some v
  | [] => by simp [insert, lookup]
  | (k', v') :: rest => by
    simp only [insert]
    split
    · simp [lookup]
    · rename_i hne
      split
      · simp [lookup]
      · simp only [lookup, hne, if_false]
        exact lookup_insert_same k v rest

theorem lookup_insert_other (k j : Bytes) (v : Val N) (hjk : j ≠ k) :
    ∀ l : List (Bytes × Val N), lookup j (insert k v l) = lookup j l
  | [] => by simp [insert, lookup, Ne.symm hjk]
  | (k', v') :: rest => by
    simp only [insert]
    split
    · rename_i hk; subst hk; simp [lookup, Ne.symm hjk]
    · split
      · simp [lookup, Ne.symm hjk]
      · simp only [lookup]
        split
        · rfl
        · exact lookup_insert_other k j v hjk rest

/-- Merging the members of an object into an accumulator: a key of the object
    gets the object's (last) value, other keys keep theirs. -/
theorem lookup_foldl_insert_or (j : Bytes) : ∀ (kvs acc : List (Bytes × Val N)),
    lookup j (kvs.foldl (fun m kv => insert kv.1 kv.2 m) acc) =
      (lookup j kvs.reverse).or (lookup j acc)
  | [], acc => rfl
  | (k, v) :: rest, acc => by
    rw [List.foldl_cons, List.reverse_cons, lookup_foldl_insert_or j rest, lookup_append_single]
    cases lookup j rest.reverse with
    | some w => rfl
    | none =>
      simp only [Option.none_or]
      split
      · rename_i hkj
        rw [← hkj, lookup_insert_same]
        rfl
      · rename_i hkj
        rw [lookup_insert_other k j v (Ne.symm hkj)]
        rfl

theorem mem_insert {k : Bytes} {v : Val N} {p : Bytes × Val N} : ∀ {l : List (Bytes × Val N)},
    p ∈ insert k v l → p = (k, v) ∨ p ∈ l
  | [] => by simp [insert]
  | (k', v') :: rest => by
    simp only [insert]
    split
    · exact fun h => (List.mem_cons.mp h).imp_right (List.mem_cons_of_mem _)
    · split
      · exact fun h => List.mem_cons.mp h
      · intro h
        rcases List.mem_cons.mp h with e | e
        · exact Or.inr (e ▸ List.mem_cons_self ..)
        · exact (mem_insert e).imp_right (List.mem_cons_of_mem _)

end lookups

end Jmes.Val

namespace Jmes.FnMore
variable {N : Type}

theorem lookup_reverse_eq_none (j : Bytes) (l : List (Bytes × Val N)) (h : Val.lookup j l = none) :
    Val.lookup j l.reverse = none := by
  rw [Val.lookup_eq_none_iff] at h ⊢
  intro p hp
  exact h p (List.mem_reverse.mp hp)

end Jmes.FnMore
