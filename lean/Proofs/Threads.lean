/-
  Proofs.Threads — schedule independence and the frame property of the abstract
  machine of Spec/Threads.lean.
-/
import Spec.Threads
namespace Jmes.Threads

section   -- no decidable equality is involved yet
variable {T L V PC : Type} (S : Sys T L V PC)

theorem agree_refl (t : T) (c : Conf T L V PC) : Agree S t c c := ⟨rfl, fun _ _ => rfl⟩

theorem agree_trans {t : T} {a b c : Conf T L V PC} (h1 : Agree S t a b) (h2 : Agree S t b c) : Agree S t a c :=
  ⟨h1.1.trans h2.1, fun l hl => (h1.2 l hl).trans (h2.2 l hl)⟩

theorem agree_symm {t : T} {a b : Conf T L V PC} (h : Agree S t a b) : Agree S t b a :=
  ⟨h.1.symm, fun l hl => (h.2 l hl).symm⟩

end

variable {T L V PC : Type} [DecidableEq T] [DecidableEq L]

theorem write_congr {h h' : L → V} {ws : List (L × V)} {l : L} (e : h l = h' l) : write h ws l = write h' ws l := by
  induction ws generalizing h h' with
  | nil => exact e
  | cons lv ws ih =>
    obtain ⟨a, v⟩ := lv
    apply ih  -- `write h ((a, v) :: ws)` is `write (fun x => if x = a then v else h x) ws` by computation
    by_cases hl : l = a <;> simp [hl, e]

theorem write_other {h : L → V} {ws : List (L × V)} {l : L} (hn : ∀ lv ∈ ws, lv.1 ≠ l) : write h ws l = h l := by
  induction ws generalizing h with
  | nil => rfl
  | cons lv ws ih =>
    obtain ⟨a, v⟩ := lv
    have ⟨ha, hws⟩ := List.forall_mem_cons.mp hn
    exact (ih hws).trans (if_neg (Ne.symm ha))

variable (S : Sys T L V PC)

theorem agree_exec_same (hr : ReadsOwn S) {t : T} {c c' : Conf T L V PC} (h : Agree S t c c') :
    Agree S t (S.exec c t) (S.exec c' t) := by
  have hs : S.step t c.heap (c.pcs t) = S.step t c'.heap (c'.pcs t) := by
    rw [h.1]; exact hr t c.heap c'.heap _ h.2
  refine ⟨by simp [Sys.exec, hs], fun l hl => ?_⟩
  simp only [Sys.exec, hs]
  exact write_congr (h.2 l hl)

theorem exec_heap (hw : WritesPrivate S) (c : Conf T L V PC) (u : T) (l : L) (hl : S.owner l ≠ some u) :
    (S.exec c u).heap l = c.heap l :=
  write_other fun lv hlv e => hl (e ▸ hw u c.heap (c.pcs u) lv hlv)

theorem agree_exec_other (hw : WritesPrivate S) {t u : T} (hne : u ≠ t) (c : Conf T L V PC) :
    Agree S t c (S.exec c u) := by
  refine ⟨by simp [Sys.exec, Ne.symm hne], fun l hl => (exec_heap S hw c u l ?_).symm⟩
  rcases hl with h | h <;> rw [h]
  · nofun
  · exact fun e => hne (Option.some.inj e).symm

theorem agree_run_same (hr : ReadsOwn S) {t : T} (n : Nat) {c c' : Conf T L V PC} (h : Agree S t c c') :
    Agree S t (S.run c (List.replicate n t)) (S.run c' (List.replicate n t)) := by
  induction n generalizing c c' with
  | zero => exact h
  | succ n ih => simp only [Sys.run, List.replicate_succ, List.foldl_cons]; exact ih (agree_exec_same S hr h)

theorem run_replicate_of_idle {c : Conf T L V PC} {t : T} (h : S.step t c.heap (c.pcs t) = (c.pcs t, [])) (n : Nat) :
    S.run c (List.replicate n t) = c := by
  have he : S.exec c t = c := by
    obtain ⟨heap, pcs⟩ := c
    simp only [Sys.exec, h]
    congr 1
    funext u
    split <;> simp [*]
  induction n with
  | zero => rfl
  | succ n ih => rw [List.replicate_succ, Sys.run, List.foldl_cons, he]; exact ih

/-- **Schedule independence.**  Under any schedule, what call `t` computes —
    its program counter and every location it owns, hence its result — is what
    it computes running alone for the same number of its own steps. -/
theorem schedule_independent (hw : WritesPrivate S) (hr : ReadsOwn S) (c : Conf T L V PC) (sched : List T) (t : T) :
    Agree S t (S.run c sched) (S.run c (List.replicate (sched.count t) t)) := by
  induction sched generalizing c with
  | nil => exact agree_refl S t c
  | cons u rest ih =>
    by_cases hu : u = t
    · subst hu
      simp only [Sys.run, List.foldl_cons, List.count_cons_self, List.replicate_succ]
      exact ih (S.exec c u)
    · have hc : (u :: rest).count t = rest.count t := by simp [hu]
      rw [hc]
      simp only [Sys.run, List.foldl_cons]
      refine agree_trans S (ih (S.exec c u)) ?_
      exact agree_symm S (agree_run_same S hr _ (agree_exec_other S hw hu c))

/-- **Frame.**  No schedule changes a shared location (the document, the
    compiled expression, package state). -/
theorem shared_unchanged (hw : WritesPrivate S) (c : Conf T L V PC) (sched : List T) (l : L) (hl : S.owner l = none) :
    (S.run c sched).heap l = c.heap l := by
  induction sched generalizing c with
  | nil => rfl
  | cons u rest ih => exact (ih (S.exec c u)).trans (exec_heap S hw c u l (by rw [hl]; nofun))

/-- This is `WritesPrivate` read once more: it says nothing of which locations a call reads. -/
theorem no_conflicting_access (hw : WritesPrivate S) (t u : T) (hne : t ≠ u) (h : L → V) (pc : PC)
    (lv : L × V) (hlv : lv ∈ (S.step t h pc).2) : ¬ (S.owner lv.1 = none ∨ S.owner lv.1 = some u) := by
  rw [hw t h pc lv hlv]
  exact fun hx => hx.elim nofun fun e => hne (Option.some.inj e)

end Jmes.Threads
