/-
  Proofs.JsonString — the JSON string codec round trip: for every well-formed
  UTF-8 string `s`, decoding the body that `json.Marshal` writes for `s`
  (`Json.escape s`, HTML-safe escapes and U+2028/9 included) gives back `s`.
  This is what makes a quoted identifier spelled with JSON escaping select
  exactly the key `s` (C14), and strings survive encode/decode (C16).
-/
import Jmes.Json
import Proofs.Utf8
namespace Jmes.Json
open Jmes.Utf8

/-- well-formed UTF-8 (every rune decodes without error) -/
inductive ValidUtf8 : Bytes → Prop
  | nil : ValidUtf8 []
  | ascii (c : UInt8) (rest : Bytes) : c < 0x80 → ValidUtf8 rest → ValidUtf8 (c :: rest)
  | multi (c : UInt8) (rest : Bytes) : 1 < (decodeRune (c :: rest)).2 →
      ValidUtf8 ((c :: rest).drop (decodeRune (c :: rest)).2) → ValidUtf8 (c :: rest)

/-- what `escapeAux` writes for one ASCII byte -/
def escOut (c : UInt8) : Bytes :=
  if c = 0x5C || c = 0x22 then [0x5C, c]
  else if c = 0x08 then [0x5C, 0x62]
  else if c = 0x0C then [0x5C, 0x66]
  else if c = 0x0A then [0x5C, 0x6E]
  else if c = 0x0D then [0x5C, 0x72]
  else if c = 0x09 then [0x5C, 0x74]
  else if c < 0x20 || c = 0x3C || c = 0x3E || c = 0x26 then
    [0x5C, 0x75, 0x30, 0x30, hexDigit (c.toNat >>> 4), hexDigit (c.toNat &&& 0xF)]
  else [c]

theorem escapeAux_ascii (fuel : Nat) (c : UInt8) (rest : Bytes) (hc : c < 0x80) :
    escapeAux (fuel + 1) (c :: rest) = escOut c ++ escapeAux fuel rest :=
  if_pos hc

theorem hexVal_hexDigit : ∀ n : Fin 16, hexVal (hexDigit n.val) = some n.val := by decide

/-- the ASCII bytes written as `\u00XX` -/
def isUEsc (c : UInt8) : Bool :=
  (c < 0x20 || c == 0x3C || c == 0x3E || c == 0x26) && c != 0x08 && c != 0x0C && c != 0x0A && c != 0x0D && c != 0x09

theorem esc_class : ∀ c : UInt8, c < 0x80 →
    (c = 0x5C ∨ c = 0x22 ∨ c = 0x08 ∨ c = 0x0C ∨ c = 0x0A ∨ c = 0x0D ∨ c = 0x09) ∨ isUEsc c = true ∨
    (escOut c = [c] ∧ c ≠ 0x22 ∧ ¬ c < 0x20 ∧ c ≠ 0x5C) := by
  apply forall_uint8; decide +kernel

theorem escOut_u : ∀ c : UInt8, isUEsc c = true →
    escOut c = [0x5C, 0x75, 0x30, 0x30, hexDigit (c.toNat >>> 4), hexDigit (c.toNat &&& 0xF)] := by
  apply forall_uint8; decide +kernel

theorem parse_u4 (fuel : Nat) {a b c d : UInt8} {tail : Bytes} {r : Nat}
    (hg : getu4 (0x5C :: 0x75 :: a :: b :: c :: d :: tail) = some r)
    (hs : (decide (0xD800 ≤ r) && decide (r < 0xE000)) = false) :
    parseStringBody (fuel + 1) (0x5C :: 0x75 :: a :: b :: c :: d :: tail) =
      (parseStringBody fuel tail).map (fun p => (encodeRune r ++ p.1, p.2)) := by
  -- by computation: `rw [parseStringBody.eq_def]` has Lean prove that equation anew in each proof that uses it
  conv => lhs; whnf
  simp only [↓reduceIte, hg, hs, Bool.false_eq_true]
  rfl  -- `List.drop 4` of the four hex digits computes

theorem parse_ascii (c : UInt8) (hc : c < 0x80) (tail : Bytes) (fuel : Nat) :
    parseStringBody (fuel + 1) (escOut c ++ tail) = (parseStringBody fuel tail).map (fun (s, r) => (c :: s, r)) := by
  rcases esc_class c hc with h | h | h
  · rcases h with rfl | rfl | rfl | rfl | rfl | rfl | rfl <;> rfl
  · have hg : getu4 (0x5C :: 0x75 :: 0x30 :: 0x30 :: hexDigit (c.toNat >>> 4) :: hexDigit (c.toNat &&& 0xF) :: tail) = some c.toNat := by
      simp only [getu4, hexVal_hexDigit ⟨_, (nibbles c).1⟩, hexVal_hexDigit ⟨_, (nibbles c).2⟩, show hexVal 0x30 = some 0 by decide]
      rw [Nat.shiftRight_eq_div_pow, Nat.and_two_pow_sub_one_eq_mod _ 4, Option.some.injEq]; omega
    have hsur : (decide (0xD800 ≤ c.toNat) && decide (c.toNat < 0xE000)) = false := by
      have : c.toNat < 0x80 := UInt8.lt_iff_toNat_lt.mp hc
      simp; omega
    rw [escOut_u c h]
    exact (parse_u4 fuel hg hsur).trans (by rw [encodeRune_ascii c hc]; rfl)
  · obtain ⟨he, h1, h2, h3⟩ := h
    rw [he, List.cons_append, List.nil_append]
    show (if c = 0x22 then _ else _) = _
    simp only [↓reduceIte, h1, h2, h3, hc]

theorem escOut_length_pos (c : UInt8) (hc : c < 0x80) : 1 ≤ (escOut c).length := by
  rcases esc_class c hc with h | h | h
  · rcases h with rfl | rfl | rfl | rfl | rfl | rfl | rfl <;> decide
  · rw [escOut_u c h]; simp
  · rw [h.1]; simp

/-- what `escapeAux` writes for one well-formed multi-byte rune -/
def escMulti (c : UInt8) (rest : Bytes) : Bytes :=
  if (decodeRune (c :: rest)).1 = 0x2028 then [0x5C, 0x75, 0x32, 0x30, 0x32, 0x38]
  else if (decodeRune (c :: rest)).1 = 0x2029 then [0x5C, 0x75, 0x32, 0x30, 0x32, 0x39]
  else (c :: rest).take (decodeRune (c :: rest)).2

theorem escapeAux_multi (fuel : Nat) (c : UInt8) (rest : Bytes) (hw : 1 < (decodeRune (c :: rest)).2) :
    escapeAux (fuel + 1) (c :: rest) = escMulti c rest ++ escapeAux fuel ((c :: rest).drop (decodeRune (c :: rest)).2) := by
  have hc := multi_not_ascii c rest hw
  have hw1 : ¬ (decodeRune (c :: rest)).2 = 1 := by omega
  show (if c < 0x80 then _ else _) = _
  rw [if_neg hc]
  simp only [escMulti, hw1, decide_false, Bool.and_false, Bool.false_eq_true, if_false]
  split
  · rfl
  · split <;> rfl

theorem escMulti_length_pos (c : UInt8) (rest : Bytes) (hw : 1 < (decodeRune (c :: rest)).2) : 1 ≤ (escMulti c rest).length := by
  unfold escMulti
  split
  · simp
  · split
    · simp
    · simp only [List.length_take, List.length_cons]; omega

theorem parse_rune {u : Bytes} {r : Nat} (hm : Multi u r) (fuel : Nat) (tail : Bytes) :
    parseStringBody (fuel + 1) (u ++ tail) = (parseStringBody fuel tail).map (fun p => (u ++ p.1, p.2)) := by
  have hd := hm.dec tail
  have he := hm.enc
  cases u with
  | nil => exact absurd hm.len (by decide)
  | cons c tl =>
    have hc : ¬ c < 0x80 := hm.hi c (by simp)
    have hctl : ¬ c < 0x20 := fun h => hc (UInt8.lt_trans h (by decide))
    rw [List.cons_append] at hd ⊢
    show (if c = 0x22 then _ else _) = _
    simp only [↓reduceIte, ne_of_nonascii hc (by decide : (0x22 : UInt8) < 0x80), hctl,
      ne_of_nonascii hc (by decide : (0x5C : UInt8) < 0x80), hc, hd, he]
    rw [← List.cons_append, List.drop_left]

theorem parse_multi (c : UInt8) (rest : Bytes) (hw : 1 < (decodeRune (c :: rest)).2) (tail : Bytes) (fuel : Nat) :
    parseStringBody (fuel + 1) (escMulti c rest ++ tail) =
      (parseStringBody fuel tail).map (fun (s, r) => ((c :: rest).take (decodeRune (c :: rest)).2 ++ s, r)) := by
  have hm := multi_take hw
  unfold escMulti
  by_cases h28 : (decodeRune (c :: rest)).1 = 0x2028
  · rw [if_pos h28, ← hm.enc, h28]
    exact parse_u4 fuel rfl (by decide)
  · rw [if_neg h28]
    by_cases h29 : (decodeRune (c :: rest)).1 = 0x2029
    · rw [if_pos h29, ← hm.enc, h29]
      exact parse_u4 fuel rfl (by decide)
    · rw [if_neg h29]
      exact parse_rune hm fuel tail

theorem escapeAux_ind {P : Bytes → Bytes → Prop} (nil : P [] [])
    (ascii : ∀ (c : UInt8) (rest e : Bytes), c < 0x80 → P rest e → P (c :: rest) (escOut c ++ e))
    (multi : ∀ (c : UInt8) (rest e : Bytes), 1 < (decodeRune (c :: rest)).2 →
      P ((c :: rest).drop (decodeRune (c :: rest)).2) e → P (c :: rest) (escMulti c rest ++ e))
    {s : Bytes} (hv : ValidUtf8 s) : ∀ fuel, s.length ≤ fuel → P s (escapeAux fuel s) := by
  induction hv with (intro fuel he)
  | nil => cases fuel <;> exact nil
  | ascii c rest hc _ ih =>
    obtain ⟨f, rfl⟩ := Nat.exists_eq_add_one_of_ne_zero (Nat.ne_zero_of_lt (Nat.lt_of_succ_le he))
    rw [escapeAux_ascii f c rest hc]
    exact ascii c rest _ hc (ih f (Nat.le_of_succ_le_succ he))
  | multi c rest hw _ ih =>
    obtain ⟨f, rfl⟩ := Nat.exists_eq_add_one_of_ne_zero (Nat.ne_zero_of_lt (Nat.lt_of_succ_le he))
    rw [escapeAux_multi f c rest hw]
    exact multi c rest _ hw (ih f (by simp only [List.length_drop, List.length_cons] at he ⊢; omega))

/-- **The JSON string codec round trip** (body level): decoding what `json.Marshal`
    writes for a well-formed UTF-8 string, up to the closing quote, gives the string back. -/
theorem parse_escape {s : Bytes} (hv : ValidUtf8 s) (fuelE fuelP : Nat) (tail : Bytes) (he : s.length ≤ fuelE)
    (hp : (escapeAux fuelE s).length < fuelP) :
    parseStringBody fuelP (escapeAux fuelE s ++ 0x22 :: tail) = some (s, tail) := by
  refine escapeAux_ind (P := fun s e => ∀ fuelP, e.length < fuelP → parseStringBody fuelP (e ++ 0x22 :: tail) = some (s, tail))
    ?_ ?_ ?_ hv fuelE he fuelP hp
  · intro fuelP hp
    obtain ⟨f, rfl⟩ := Nat.exists_eq_add_one_of_ne_zero (Nat.ne_zero_of_lt hp)
    rfl
  · intro c rest e hc ih fuelP hp
    obtain ⟨f, rfl⟩ := Nat.exists_eq_add_one_of_ne_zero (Nat.ne_zero_of_lt hp)
    -- every piece is at least one byte, so the parser's fuel, which counts bytes, goes down with each
    have h1 := escOut_length_pos c hc
    rw [List.append_assoc, parse_ascii c hc _ f, ih f (by simp only [List.length_append] at hp; omega)]
    rfl
  · intro c rest e hw ih fuelP hp
    obtain ⟨f, rfl⟩ := Nat.exists_eq_add_one_of_ne_zero (Nat.ne_zero_of_lt hp)
    have h1 := escMulti_length_pos c rest hw
    rw [List.append_assoc, parse_multi c rest hw _ f, ih f (by simp only [List.length_append] at hp; omega)]
    simp only [Option.map, List.take_append_drop]

/-- **Quoted identifiers**: `json.Unmarshal` of the marshalled body of `s` is `s`. -/
theorem unquote_escape (s : Bytes) (hv : ValidUtf8 s) : unquoteString (escape s) = some s := by
  unfold unquoteString escape
  rw [parse_escape hv s.length _ [] (Nat.le_refl _) (Nat.lt_succ_self _)]

end Jmes.Json
