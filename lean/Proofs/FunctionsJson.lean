/-
  Proofs.FunctionsJson — every built-in function maps JSON arguments to a
  JSON result (`Val.isJSON`: finite numbers, object keys strictly ascending).
-/
import Proofs.Json
import Proofs.FunctionsMore
namespace Jmes.Fn
variable {N : Type} [NumOps N]
open Jmes.Val

def ArgsJSON (args : List (Arg N)) : Prop :=
  (∀ v, Arg.val v ∈ args → v.isJSON = true) ∧
  (∀ f, Arg.ref f ∈ args → ∀ v r, v.isJSON = true → f v = .ok r → r.isJSON = true)

open Jmes.FnMore

theorem ArgsJSON.nil : ArgsJSON ([] : List (Arg N)) := ⟨fun _ h => (nomatch h), fun _ h => (nomatch h)⟩

theorem ArgsJSON.cons_val {v : Val N} (hv : v.isJSON = true) {as : List (Arg N)} (h : ArgsJSON as) :
    ArgsJSON (.val v :: as) := by
  refine ⟨fun w hw => ?_, fun f hf => ?_⟩
  · rcases List.mem_cons.mp hw with e | hw
    · cases e; exact hv
    · exact h.1 w hw
  · rcases List.mem_cons.mp hf with e | hf
    · cases e
    · exact h.2 f hf

theorem ArgsJSON.cons_ref {f : Val N → Res (Val N)} (hf : ∀ v r, v.isJSON = true → f v = .ok r → r.isJSON = true)
    {as : List (Arg N)} (h : ArgsJSON as) : ArgsJSON (.ref f :: as) := by
  refine ⟨fun w hw => ?_, fun g hg => ?_⟩
  · rcases List.mem_cons.mp hw with e | hw
    · cases e
    · exact h.1 w hw
  · rcases List.mem_cons.mp hg with e | hg
    · cases e; exact hf
    · exact h.2 g hg

theorem toArrayNum_finite {a : Arg N} {as : List (Arg N)} {ns : List N} (h : toArrayNum a = some ns)
    (ha : ∀ v, Arg.val v ∈ a :: as → v.isJSON = true) : ∀ n ∈ ns, NumOps.isFinite n = true := by
  cases a with
  | ref f => cases h
  | val v =>
    cases v <;> try cases h
    cases allNums_eq_map _ ns h
    exact fun n hn => (isJSON_num n).mp (isJSON_arr.mp (ha _ (List.mem_cons_self ..)) _ (List.mem_map.mpr ⟨n, hn, rfl⟩))

omit [NumOps N] in
theorem byLoop_result {K : Type} {proj : Val N → Option K} {bad : Err} {f : Val N → Res (Val N)} {better : K → K → Bool} :
    ∀ {xs : List (Val N)} {bv : K} {bi r : Val N}, byLoop proj bad f better bv bi xs = .ok r → r ∈ bi :: xs
  | [], _, _, _, h => by cases h; exact List.mem_cons_self ..
  | x :: xs, bv, bi, r, h => by
    unfold byLoop at h
    split at h
    · split at h
      · split at h
        · exact List.mem_cons_of_mem _ (byLoop_result h)
        · rcases List.mem_cons.mp (byLoop_result h) with e | e
          · exact e ▸ List.mem_cons_self ..
          · exact List.mem_cons_of_mem _ (List.mem_cons_of_mem _ e)
      · cases h
    · cases h
    · cases h

theorem extremeBy_result {f : Val N → Res (Val N)} {isMax : Bool} {xs : List (Val N)} {r : Val N}
    (h : extremeBy f isMax xs = .ok r) : r = .null ∨ r ∈ xs := by
  unfold extremeBy at h
  split at h
  · cases h; exact Or.inl rfl
  · split at h
    · rw [byLoopNum_eq] at h; exact Or.inr (byLoop_result h)
    · rw [byLoopStr_eq] at h; exact Or.inr (byLoop_result h)
    · cases h
    · cases h
    · cases h

omit [NumOps N] in
theorem keysOf_snd {K : Type} (proj : Val N → Option K) (f : Val N → Res (Val N)) :
    ∀ {xs : List (Val N)} {ks : List (K × Val N)}, keysOf proj f xs = .ok (some ks) → ks.map (·.2) = xs
  | [], ks, h => by cases h; rfl
  | x :: xs, ks, h => by
    unfold keysOf at h
    split at h
    · cases h
    · obtain ⟨o, ho, h⟩ := Res.bind_eq_ok.mp h
      split at h
      · cases h
        rw [List.map_cons, keysOf_snd proj f ho]
      · cases h

theorem sortBy_result {f : Val N → Res (Val N)} {xs : List (Val N)} {r : Val N} (h : sortBy f xs = .ok r) :
    ∃ ys, r = .arr ys ∧ ∀ y ∈ ys, y ∈ xs := by
  unfold sortBy at h
  split at h
  · cases h; exact ⟨[], rfl, fun _ hy => hy⟩
  · split at h
    · split at h
      · cases h; exact ⟨_, rfl, fun _ hy => hy⟩
      · split at h <;> cases h
        rename_i hk
        -- sorting permutes the keyed pairs, whose second components are the elements
        have hs := keysOf_snd numOf f (keysNum_eq f _ ▸ hk)
        exact ⟨_, rfl, fun _ hz => hs ▸ ((List.mergeSort_perm _ _).map _).mem_iff.mp hz⟩
    · split at h
      · cases h; exact ⟨_, rfl, fun _ hy => hy⟩
      · split at h <;> cases h
        rename_i hk
        have hs := keysOf_snd strOf f (keysStr_eq f _ ▸ hk)
        exact ⟨_, rfl, fun _ hz => hs ▸ ((List.mergeSort_perm _ _).map _).mem_iff.mp hz⟩
    · cases h
    · cases h
    · cases h

theorem mergeLoop_json {acc : List (Bytes × Val N)} {args : List (Arg N)} {r : Val N} (h : mergeLoop acc args = .ok r)
    (hacc : (Val.obj acc).isJSON = true) (ha : ∀ v, Arg.val v ∈ args → v.isJSON = true) : r.isJSON = true := by
  induction args generalizing acc with
  | nil => cases h; exact hacc
  | cons a as ih =>
    cases a with
    | ref f => cases h
    | val v =>
      cases v <;> try cases h
      rename_i kvs
      have hk := ha (.obj kvs) (List.mem_cons_self ..)
      exact ih h (isJSON_foldl_insert (isJSON_obj.mp hk).2 hacc)
        (fun w hw => ha w (List.mem_cons_of_mem _ hw))

theorem maxNum_mem (best : N) (xs : List N) : maxNum best xs ∈ best :: xs :=
  maxNum_eq_extLoopN xs best ▸ extLoopN_mem _ best xs

theorem minNum_mem (best : N) (xs : List N) : minNum best xs ∈ best :: xs :=
  minNum_eq_extLoopN xs best ▸ extLoopN_mem _ best xs

theorem ne_ok_assert {α} (site : String) (r : α) : (assertPanic site : Res α) ≠ .ok r := by
  intro h; cases h
theorem err_ne_ok {α} (e : Err) (r : α) : (Res.err e : Res α) ≠ .ok r := by intro h; cases h
theorem panic_ne_ok {α} (p : String) (r : α) : (Res.panic p : Res α) ≠ .ok r := by intro h; cases h

variable [NumLaws N]

theorem foldl_add_finite {ns : List N} (h : ∀ n ∈ ns, NumOps.isFinite n = true) {acc : N} (ha : NumOps.isFinite acc = true) :
    NumOps.isFinite (ns.foldl NumOps.add acc) = true := by
  induction ns generalizing acc with
  | nil => exact ha
  | cons n ns ih =>
    exact ih (fun m hm => h m (List.mem_cons_of_mem _ hm)) (NumLaws.finite_add _ _ ha (h n (List.mem_cons_self ..)))

theorem avgLoop_finite {xs : List (Val N)} (h : ∀ x ∈ xs, x.isJSON = true) {acc s : N} (ha : NumOps.isFinite acc = true)
    (hs : avgLoop acc xs = .ok s) : NumOps.isFinite s = true := by
  induction xs generalizing acc with
  | nil => cases hs; exact ha
  | cons x xs ih =>
    cases x <;> try cases hs
    rename_i n
    exact ih (fun y hy => h y (List.mem_cons_of_mem _ hy))
      (NumLaws.finite_add _ _ ha ((isJSON_num n).mp (h _ (List.mem_cons_self ..)))) hs

/-- Closes a branch whose outcome is a constant: a panic, an error, or a fixed JSON value (null, a Boolean, a string,
    a count).  It never closes a branch that needs a hypothesis about the arguments. -/
macro "const_branch" hr:ident : tactic =>
  `(tactic| first
    | exact absurd $hr (ne_ok_assert _ _)
    | exact absurd $hr (err_ne_ok _ _)
    | exact absurd $hr (panic_ne_ok _ _)
    | (cases $hr:ident; rfl)
    | (cases $hr:ident; exact (isJSON_num _).mpr (NumLaws.finite_ofNat _)))

theorem handle_json {h : Handler} {intr : Bool} {args : List (Arg N)} {r : Val N} (ha : ArgsJSON args)
    (hr : handle h intr args = .ok r) : r.isJSON = true := by
  obtain ⟨hv, hf⟩ := ha
  have hv0 : ∀ {v : Val N} {as : List (Arg N)}, args = .val v :: as → v.isJSON = true :=
    fun e => hv _ (e ▸ List.mem_cons_self ..)
  -- Throughout, `cases hr` closes a branch whose outcome is a panic or an error, and makes `r` the value of any other;
  -- `cases hr <;> rfl` closes, besides, a branch whose value is null, a Boolean, a string or a fixed array.
  cases h
  case sum =>
    dsimp only [handle] at hr
    split at hr
    · cases hr
      exact (isJSON_num _).mpr (NumLaws.finite_ofNat 0)
    split at hr
    · rename_i a _
      cases hr
      refine (isJSON_num _).mpr (foldl_add_finite ?_ (NumLaws.finite_ofNat 0))
      cases hn : toArrayNum a with
      | none => exact fun _ h => nomatch h
      | some ns => exact toArrayNum_finite hn hv
    · cases hr
  -- every other handler first looks at the flag: with the wrong one it panics, fails, or returns null or the empty array
  all_goals (dsimp only [handle] at hr; split at hr; (cases hr <;> rfl))
  case startsWith | endsWith | contains | type | toString | join =>
    -- a Boolean, a string or null in every branch, whatever the arguments
    repeat' split at hr
    all_goals (cases hr <;> rfl)
  case length =>
    -- a count in every branch that returns
    split at hr <;> cases hr <;> exact (isJSON_num _).mpr (NumLaws.finite_ofNat _)
  case abs =>
    split at hr
    · cases hr
      exact (isJSON_num _).mpr (NumLaws.finite_abs _ ((isJSON_num _).mp (hv0 rfl)))
    · cases hr
  case ceil =>
    split at hr
    · cases hr
      exact (isJSON_num _).mpr (NumLaws.finite_ceil _ ((isJSON_num _).mp (hv0 rfl)))
    · cases hr
  case floor =>
    split at hr
    · cases hr
      exact (isJSON_num _).mpr (NumLaws.finite_floor _ ((isJSON_num _).mp (hv0 rfl)))
    · cases hr
  case avg =>
    split at hr
    · rename_i xs _
      split at hr
      · cases hr; rfl
      · split at hr <;> cases hr
        rename_i s hs
        exact (isJSON_num _).mpr (NumLaws.finite_div _ _
          (avgLoop_finite (isJSON_arr.mp (hv0 rfl)) (NumLaws.finite_ofNat 0) hs) (NumLaws.finite_ofNat _))
    · cases hr
  case map =>
    split at hr
    · rename_i f xs _
      split at hr <;> cases hr
      rename_i ys hm
      rw [mapLoop_eq] at hm
      refine isJSON_arr.mpr fun y hy => ?_
      obtain ⟨x, hx, hfx⟩ := Res.mapM'_mem hm hy
      exact hf f (List.mem_cons_self ..) x y (isJSON_arr.mp (hv _ (List.mem_cons_of_mem _ (List.mem_cons_self ..))) x hx) hfx
    · cases hr
  case max =>
    split at hr
    · split at hr
      · cases hr; rfl
      · rename_i x xs hn
        cases hr
        exact (isJSON_num _).mpr (toArrayNum_finite hn hv _ (maxNum_mem x xs))
      · split at hr <;> cases hr <;> rfl
    · cases hr
  case min =>
    split at hr
    · split at hr
      · cases hr; rfl
      · rename_i x xs hn
        cases hr
        exact (isJSON_num _).mpr (toArrayNum_finite hn hv _ (minNum_mem x xs))
      · split at hr <;> cases hr <;> rfl
    · cases hr
  case merge =>
    exact mergeLoop_json hr rfl hv
  case maxBy | minBy =>
    split at hr
    · rename_i xs f _
      rcases extremeBy_result hr with e | e
      · subst e; rfl
      · exact isJSON_arr.mp (hv0 rfl) r e
    · cases hr
  case keys =>
    split at hr
    · cases hr
      refine isJSON_arr.mpr fun x hx => ?_
      obtain ⟨kv, _, rfl⟩ := List.mem_map.mp hx
      rfl
    · cases hr
  case values =>
    split at hr
    · rename_i kvs _
      cases hr
      refine isJSON_arr.mpr fun x hx => ?_
      obtain ⟨kv, hkv, rfl⟩ := List.mem_map.mp hx
      exact (isJSON_obj.mp (hv0 rfl)).2 kv hkv
    · cases hr
  case sort =>
    split at hr
    · split at hr <;> cases hr <;> refine isJSON_arr.mpr fun x hx => ?_
      · rename_i ns hn
        obtain ⟨n, hnm, rfl⟩ := List.mem_map.mp hx
        exact (isJSON_num _).mpr (toArrayNum_finite hn hv n ((List.mergeSort_perm _ _).mem_iff.mp hnm))
      · obtain ⟨s, _, rfl⟩ := List.mem_map.mp hx
        rfl
    · cases hr
  case sortBy =>
    split at hr
    · rename_i xs f _
      obtain ⟨ys, rfl, hys⟩ := sortBy_result hr
      exact isJSON_arr.mpr fun y hy => isJSON_arr.mp (hv0 rfl) y (hys y hy)
    · cases hr
  case reverse =>
    split at hr
    · cases hr; rfl
    · rename_i xs _
      cases hr
      exact isJSON_arr.mpr fun x hx => isJSON_arr.mp (hv0 rfl) x (List.mem_reverse.mp hx)
    · cases hr
  case toArray =>
    split at hr
    · cases hr; exact hv0 rfl
    · cases hr
      exact isJSON_arr.mpr fun x hx => List.mem_singleton.mp hx ▸ hv0 rfl
    · cases hr
  case toNumber =>
    split at hr
    · cases hr; exact hv0 rfl
    · split at hr
      · split at hr
        · rename_i hfin  -- the parsed number is returned only under `isFinite`
          cases hr
          exact (isJSON_num _).mpr hfin
        · cases hr; rfl
      · cases hr; rfl
    · cases hr; rfl
    · cases hr
    · cases hr
  case notNull =>
    split at hr
    · rename_i v hfd; cases hr; exact hv _ (List.mem_of_find?_eq_some hfd)
    · cases hr
    · cases hr; rfl

theorem callFunction_json {ft : List FnEntry} {name : Bytes} {args : List (Arg N)} {r : Val N} (ha : ArgsJSON args)
    (hr : callFunction ft name args = .ok r) : r.isJSON = true := by
  unfold callFunction at hr
  split at hr
  · cases hr
  · split at hr
    · exact handle_json ha hr
    · cases hr
    · cases hr

end Jmes.Fn
