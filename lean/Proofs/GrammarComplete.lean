/-
  Proofs.GrammarComplete — the parser accepts every sentence of `Spec.G true`
  (the published grammar, the lenient production, numbers in range), for the
  specification's table; the published grammar `G false` with numbers in range
  is contained in it (`G_mono`).

  The ABNF is ambiguous and precedence-free; the parser is a Pratt parser.  The
  proof does not build parse trees.  It describes a moment of the parse as a
  STACK of pending Pratt loops (`Stk`: each frame = level, how to wrap the node
  it is handed, what is below; the bottom frame runs at level 0 because every
  bracketed context is entered with `parseExpression(0)`), and shows by
  induction on the derivation of a phrase `s` that

      reading `s ++ rest` in any stack succeeds, provided EVERY stack succeeds
      on `rest` once `s` has been consumed                        (`MotE`)

  ("every stack" is what makes the statement compositional: how much of `s` a
  nested loop consumes before handing over to an outer one depends on the
  levels, which of the pending loops picks up the next operator is `dispatch`).
  Closing tokens unwind the whole stack to the bracket's own continuation
  (`allRun_closer`, `MotE.enter`).  A left-recursive production is an expression
  followed by a suffix that carries "every stack succeeds" backwards over itself
  (`Ext`, `pe_append`).  All steps are constructors of the relational description
  `R` (Proofs/ParserRel.lean), which is sound for the parser function.

  The lenient production (`pe_lenient`) has the parser read the list as the
  right-hand side of the projection in front of it.  So an open expression is
  read under a weaker assumption on what follows (`MotOpen`, `ExtO`: a `[`, and
  only a projection's right-hand side has to be possible there, `PrhsRun`), and
  the projection brackets are proved from that little (`MotBrP`, `EndOK`).

  In `G true` the int64 range of the numbers in `[n]` and slices is part of the
  grammar (`numOK_of_G`); a sentence of the published grammar needs it as a
  hypothesis (`NumOK`; finding D22 — the published grammar has no such bound).
-/
import Proofs.SpecTable
import Proofs.ParserSafe
import Proofs.Grammar
import Proofs.ParserPos
import Spec.Grammar
namespace Jmes.Parser
open Jmes.Spec
variable {N : Type} [NumOps N]

abbrev Kont (N : Type) := Node N → PState → Prop

def CallK (c : Call N) (κ : Kont N) : Prop := ∃ r st', R T c (.node r st') ∧ κ r st'
def CallA (c : Call N) (κ : List (Bool × Node N) → PState → Prop) : Prop := ∃ as st', R T c (.args as st') ∧ κ as st'

def pushK (k : Nat) (w : Node N → Node N) (κ : Kont N) : Kont N := fun r st => CallK (.loop k (w r) st) κ

inductive Stk (κ0 : Kont N) : Kont N → Prop
  | base (w : Node N → Node N) : Stk κ0 (pushK 0 w κ0)
  | push (k : Nat) (w : Node N → Node N) {κ : Kont N} : Stk κ0 κ → Stk κ0 (pushK k w κ)

/-- `κ` may sit under a loop at level `k` -/
def Frame (κ0 : Kont N) (k : Nat) (κ : Kont N) : Prop := ∀ w, Stk κ0 (pushK k w κ)

theorem Frame.base (κ0 : Kont N) : Frame κ0 0 κ0 := fun w => Stk.base w
theorem Frame.of_stk {κ0 κ : Kont N} {k : Nat} (h : Stk κ0 κ) : Frame κ0 k κ := fun w => Stk.push k w h
theorem Frame.push {κ0 κ : Kont N} {k k' : Nat} {w : Node N → Node N} (h : Frame κ0 k κ) : Frame κ0 k' (pushK k w κ) :=
  .of_stk (h w)

/-- in every stack a projection's right-hand side may start at `st`.  45 = `T.nudNot` is the highest level anything is
    read at (the operand of `!`) -/
def PrhsRun (κ0 : Kont N) (st : PState) : Prop := ∀ κ, Stk κ0 κ → ∀ bp, bp ≤ 45 → CallK (.prhs bp st) κ

def AllRun (κ0 : Kont N) (st : PState) : Prop :=
  (∀ κ, Stk κ0 κ → ∀ r, κ r st) ∧ (∀ κ, Stk κ0 κ → ∀ bp, bp ≤ 45 → CallK (.prhs bp st) κ)

theorem AllRun.accepts {κ0 κ : Kont N} {st : PState} (h : AllRun κ0 st) (hκ : Stk κ0 κ) (r : Node N) : κ r st := h.1 κ hκ r
theorem AllRun.prhs {κ0 : Kont N} {st : PState} (h : AllRun κ0 st) : PrhsRun κ0 st := h.2

section
variable {k bp : Nat} {κ : Kont N} {left : Node N} {bef tl : List Token} {t : Token}

theorem expr_of_nudK (h : CallK (.nud t ⟨t :: bef, tl⟩) (pushK k id κ)) : CallK (.expr k ⟨bef, t :: tl⟩) κ := by
  obtain ⟨left, p1, hn, r, st', hl, hk⟩ := h
  exact ⟨r, st', R.expr rfl hn hl, hk⟩

theorem loop_of_ledK (hk : k < specPow t.ty) (h : CallK (.led t.ty left ⟨t :: bef, tl⟩) (pushK k id κ)) :
    CallK (.loop k left ⟨bef, t :: tl⟩) κ := by
  obtain ⟨left', p1, hn, r, st', hl, hκ⟩ := h
  exact ⟨r, st', R.step rfl (by rwa [T_power]) hn hl, hκ⟩

theorem loop_stop (hk : ¬ k < specPow t.ty) (h : κ left ⟨bef, t :: tl⟩) : CallK (.loop k left ⟨bef, t :: tl⟩) κ :=
  ⟨left, _, R.stop rfl (by rwa [T_power]), h⟩

theorem prhs_id (hp : specPow t.ty < T.projStop) (h : κ .identity ⟨bef, t :: tl⟩) : CallK (.prhs bp ⟨bef, t :: tl⟩) κ :=
  ⟨_, _, R.prhsId rfl (by rwa [T_power]), h⟩

end

/-- a token that some led accepts reaches the first pending loop whose level is below its power -/
theorem dispatch {κ0 : Kont N} {bef : List Token} {t : Token} {tl : List Token} (hp : 0 < specPow t.ty)
    (L : ∀ k left κ, k < specPow t.ty → Frame κ0 k κ → CallK (.led t.ty left ⟨t :: bef, tl⟩) (pushK k id κ)) :
    ∀ κ, Stk κ0 κ → ∀ r, κ r ⟨bef, t :: tl⟩ := by
  intro κ h
  induction h with
  | base w => intro r; exact loop_of_ledK hp (L 0 (w r) κ0 hp (Frame.base κ0))
  | push k w hκ ih =>
    intro r
    by_cases hk : k < specPow t.ty
    · exact loop_of_ledK hk (L k (w r) _ hk (.of_stk hκ))
    · exact loop_stop hk (ih (w r))

theorem allRun_closer {κ0 : Kont N} {bef : List Token} {t : Token} {tl : List Token} (hp : specPow t.ty = 0)
    (h0 : ∀ r, κ0 r ⟨bef, t :: tl⟩) : AllRun κ0 ⟨bef, t :: tl⟩ := by
  have unwind : ∀ κ, Stk κ0 κ → ∀ r, κ r ⟨bef, t :: tl⟩ := by
    intro κ h
    induction h with
    | base w => intro r; exact loop_stop (by omega) (h0 _)
    | push k w hκ ih => intro r; exact loop_stop (by omega) (ih _)
  exact ⟨unwind, fun κ hκ bp _ => prhs_id (by rw [hp]; decide) (unwind κ hκ _)⟩

/-- the token types that can follow an expression; `FollowOK rest` is carried along because the nud of a quoted identifier,
    the nud of `*` and a filter look at the token after them -/
def followTy : TokType → Bool
  | .pipe | .or | .and | .eq | .ne | .lt | .lte | .gt | .gte | .dot | .lbracket | .flatten | .filter
  | .rparen | .rbracket | .rbrace | .comma | .eof => true
  | _ => false

def FollowOK (rest : List Token) : Prop := ∃ t tl, rest = t :: tl ∧ followTy t.ty = true

theorem followOK_ne {rest : List Token} (h : FollowOK rest) : rest ≠ [] := by
  obtain ⟨t, tl, rfl, _⟩ := h; simp

def HeadLB (rest : List Token) : Prop := ∃ t tl, rest = t :: tl ∧ t.ty = .lbracket

theorem headLB_ne {rest : List Token} (h : HeadLB rest) : rest ≠ [] := by
  obtain ⟨t, tl, rfl, _⟩ := h; simp

theorem binop_pow {ty : TokType} (h : isBinOp ty) : 0 < specPow ty ∧ specPow ty < T.projStop ∧ followTy ty = true := by
  rcases h with rfl | rfl | rfl | h
  · decide
  · decide
  · decide
  · cases ty <;> simp [Cmp.ofTok] at h <;> decide

theorem isBinOp_ne {ty ty' : TokType} (h : isBinOp ty) (h0 : specPow ty' = 0 := by decide) : ty ≠ ty' := fun e => by
  have := (binop_pow h).1
  rw [e, h0] at this
  cases this

theorem cmp_level {ty : TokType} {op : Cmp} (h : Cmp.ofTok ty = some op) : (T.ledCmp.lookup ty).getD 0 = 5 := by
  cases ty <;> simp [Cmp.ofTok] at h <;> rfl

theorem led_of_binop {ty : TokType} (ho : isBinOp ty) :
    ∃ (lvl : Nat) (mk : Node N → Node N → Node N), lvl ≤ 45 ∧
      ∀ {n r : Node N} {p p1 : PState}, R T (.expr lvl p) (.node r p1) → R T (.led ty n p) (.node (mk n r) p1) := by
  rcases ho with h | h | h | h
  · exact ⟨T.ledPipe, .pipe, by decide, fun hR => h ▸ R.ledPipe hR⟩
  · exact ⟨T.ledOr, .or, by decide, fun hR => h ▸ R.ledOr hR⟩
  · exact ⟨T.ledAnd, .and, by decide, fun hR => h ▸ R.ledAnd hR⟩
  · obtain ⟨op, hop⟩ := Option.isSome_iff_exists.mp h
    exact ⟨5, .cmp op, by omega, fun hR => R.ledCmp hop (by rwa [cmp_level hop])⟩

/-- a token below the projection stop (a binary operator, `[]`) ends a projection's right-hand side -/
theorem allRun_low {κ0 : Kont N} {bef : List Token} {t : Token} {tl : List Token} (hp10 : specPow t.ty < T.projStop)
    (D : ∀ κ, Stk κ0 κ → ∀ r, κ r ⟨bef, t :: tl⟩) : AllRun κ0 ⟨bef, t :: tl⟩ :=
  ⟨D, fun κ hκ _ _ => prhs_id hp10 (D κ hκ _)⟩

theorem allRun_dot {κ0 : Kont N} {bef tl : List Token} {d : Token} (hd : d.ty = .dot)
    (hled : ∀ k left κ, Frame κ0 k κ → CallK (.led .dot left ⟨d :: bef, tl⟩) (pushK k id κ))
    (hdot : ∀ κ, Stk κ0 κ → ∀ bp, bp ≤ 45 → CallK (.dot bp ⟨d :: bef, tl⟩) κ) :
    AllRun κ0 ⟨bef, d :: tl⟩ ∧ FollowOK (d :: tl) := by
  constructor
  · refine ⟨dispatch (by rw [hd]; decide) fun k left κ _ hf => hd ▸ hled k left κ hf, fun κ hκ bp hbp => ?_⟩
    obtain ⟨r, p1, hR, hk⟩ := hdot κ hκ bp hbp
    exact ⟨r, p1, R.prhsDot rfl (by rw [T_power, hd]; decide) hd hR, hk⟩
  · exact ⟨d, tl, rfl, by rw [hd]; rfl⟩

/-- `[]` ends a projection's right-hand side, `[` and `[?` start one -/
theorem allRun_br {κ0 : Kont N} {bef tl : List Token} {t : Token} (hty : headOK .bracket t.ty)
    (hled : ∀ k left κ, Frame κ0 k κ → CallK (.led t.ty left ⟨t :: bef, tl⟩) (pushK k id κ))
    (hnud : ∀ k κ, Frame κ0 k κ → CallK (.nud t ⟨t :: bef, tl⟩) (pushK k id κ)) :
    AllRun κ0 ⟨bef, t :: tl⟩ ∧ FollowOK (t :: tl) := by
  obtain ⟨hp0, hft⟩ : 0 < specPow t.ty ∧ followTy t.ty = true := by
    rcases hty with h | h | h <;> rw [h] <;> decide
  have D := dispatch hp0 fun k left κ _ => hled k left κ
  refine ⟨?_, t, _, rfl, hft⟩
  by_cases hfl : t.ty = .flatten
  · exact allRun_low (by rw [hfl]; decide) D
  · have hbr : t.ty = .lbracket ∨ t.ty = .filter := by
      rcases hty with h | h | h
      · exact .inl h
      · exact absurd h hfl
      · exact .inr h
    refine ⟨D, fun κ hκ bp hbp => ?_⟩
    obtain ⟨x, p1, hR, hk⟩ := expr_of_nudK (hnud bp κ (.of_stk hκ))
    exact ⟨x, p1, R.prhsBracket rfl (by rcases hbr with h | h <;> rw [T_power, h] <;> decide) hbr hR, hk⟩

def MotE (N : Type) [NumOps N] (s : List Token) : Prop :=
  ∀ (κ0 : Kont N) (k : Nat) (κ1 : Kont N) (bef rest : List Token), k ≤ 45 → Frame κ0 k κ1 → FollowOK rest →
    AllRun κ0 ⟨s.reverse ++ bef, rest⟩ → CallK (.expr k ⟨bef, s ++ rest⟩) κ1

/-- a bracketed context: level 0, a stack of its own, and the closing token or separator `t` unwinds all of it
    (`hty` is decided from the type `ht` names) -/
theorem MotE.enter {a : List Token} (iha : MotE N a) {κ : Kont N} {bef tl : List Token} {t : Token} {ty : TokType} (ht : t.ty = ty)
    (h0 : ∀ x, κ x ⟨a.reverse ++ bef, t :: tl⟩) (hty : specPow ty = 0 ∧ followTy ty = true := by decide) :
    CallK (.expr 0 ⟨bef, a ++ t :: tl⟩) κ :=
  iha κ 0 κ bef (t :: tl) (Nat.zero_le _) (Frame.base κ) ⟨t, tl, rfl, ht ▸ hty.2⟩ (allRun_closer (ht ▸ hty.1) h0)

def Ext (N : Type) [NumOps N] (s : List Token) : Prop :=
  ∀ (κ0 : Kont N) (bef rest : List Token), FollowOK rest → AllRun κ0 ⟨s.reverse ++ bef, rest⟩ →
    AllRun κ0 ⟨bef, s ++ rest⟩ ∧ FollowOK (s ++ rest)

theorem pe_append {a s : List Token} (iha : MotE N a) (hs : Ext N s) : MotE N (a ++ s) := by
  intro κ0 k κ1 bef rest hk hf hfo hall
  rw [List.reverse_append, List.append_assoc] at hall
  obtain ⟨h1, h2⟩ := hs κ0 (a.reverse ++ bef) rest hfo hall
  rw [List.append_assoc]
  exact iha κ0 k κ1 bef (s ++ rest) hk hf h2 h1

theorem pe_atom {t : Token} {n : Node N} (hn : ∀ p, R T (.nud t p) (.node n p)) : MotE N [t] := by
  intro κ0 k κ1 bef rest hk hf hfo hall
  exact expr_of_nudK ⟨n, _, hn _, hall.accepts (hf id) n⟩

theorem pe_ident {t : Token} (h : isIdent t) : MotE N [t] := by
  rcases h with h | h
  · exact pe_atom fun _ => R.nudIdent h
  · intro κ0 k κ1 bef rest hk hf hfo hall
    obtain ⟨u, tl, rfl, hu⟩ := hfo
    exact expr_of_nudK ⟨_, _, R.nudQuoted h rfl (fun e => by rw [e] at hu; cases hu), hall.accepts (hf id) _⟩

theorem pe_star {t : Token} (h : t.ty = .star) : MotE N [t] := by
  intro κ0 k κ1 bef rest hk hf hfo hall
  obtain ⟨u, tl, rfl, hu⟩ := hfo
  by_cases hrb : u.ty = .rbracket
  · exact expr_of_nudK ⟨_, _, R.nudStarR h rfl hrb, hall.accepts (hf id) _⟩
  · obtain ⟨r, p1, hR, hκ⟩ := hall.prhs _ (hf (fun r => .valueProj .identity r)) T.nudStar (by decide)
    exact expr_of_nudK ⟨_, _, R.nudStar h rfl hrb hR, hκ⟩

/-- the right-hand side of a dot as `parseDotRHS` reads it -/
def MotDotA (N : Type) [NumOps N] (s : List Token) : Prop :=
  ∀ (κ0 : Kont N) (κ : Kont N) (bp : Nat) (bef rest : List Token), bp ≤ 45 → Stk κ0 κ → FollowOK rest →
    AllRun κ0 ⟨s.reverse ++ bef, rest⟩ → CallK (.dot bp ⟨bef, s ++ rest⟩) κ

/-- … and as the led of `.` reads it (`left.rhs`, or `left.*` and its projection) -/
def MotDotB (N : Type) [NumOps N] (s : List Token) : Prop :=
  ∀ (κ0 : Kont N) (k : Nat) (κ1 : Kont N) (left : Node N) (bef rest : List Token), Frame κ0 k κ1 → FollowOK rest →
    AllRun κ0 ⟨s.reverse ++ bef, rest⟩ → CallK (.led .dot left ⟨bef, s ++ rest⟩) (pushK k id κ1)

theorem dot_of_dotA {t : Token} {tl : List Token} (hns : t.ty ≠ .star) (h : MotDotA N (t :: tl)) :
    MotDotA N (t :: tl) ∧ MotDotB N (t :: tl) := by
  refine ⟨h, fun κ0 k κ1 left bef rest hf hfo hall => ?_⟩
  obtain ⟨r, p1, hR, hκ⟩ := h κ0 (pushK k (fun r => .sub left r) κ1) T.ledDotSub bef rest (by decide) (hf _) hfo hall
  exact ⟨.sub left r, p1, R.ledDot rfl hns hR, hκ⟩

theorem dotA_of_expr {t : Token} {tl : List Token} (ht : t.ty = .qident ∨ t.ty = .uident) (h : MotE N (t :: tl)) : MotDotA N (t :: tl) := by
  intro κ0 κ bp bef rest hbp hκ hfo hall
  obtain ⟨r, p1, hR, hk⟩ := h κ0 bp κ bef rest hbp (.of_stk hκ) hfo hall
  exact ⟨r, p1, R.dotIdent rfl ht hR, hk⟩

/-- a bracket specifier: its led (after an expression) and its nud (on its own) -/
def MotBr (N : Type) [NumOps N] (s : List Token) : Prop :=
  ∃ t tl, s = t :: tl ∧ (t.ty = .lbracket ∨ t.ty = .flatten ∨ t.ty = .filter) ∧
    (∀ (κ0 : Kont N) (k : Nat) (κ1 : Kont N) (left : Node N) (bef rest : List Token), Frame κ0 k κ1 → FollowOK rest →
      AllRun κ0 ⟨s.reverse ++ bef, rest⟩ → CallK (.led t.ty left ⟨t :: bef, tl ++ rest⟩) (pushK k id κ1)) ∧
    (∀ (κ0 : Kont N) (k : Nat) (κ1 : Kont N) (bef rest : List Token), Frame κ0 k κ1 → FollowOK rest →
      AllRun κ0 ⟨s.reverse ++ bef, rest⟩ → CallK (.nud t ⟨t :: bef, tl ++ rest⟩) (pushK k id κ1))

theorem pe_index0 {b : List Token} (ihb : MotBr N b) : MotE N b := by
  intro κ0 k κ1 bef rest hk hf hfo hall
  obtain ⟨t, tl, rfl, hty, hled, hnud⟩ := ihb
  exact expr_of_nudK (hnud κ0 k κ1 bef rest hf hfo hall)

/-- what a projection bracket needs of the state after it: a projection's right-hand side may start
    there; and, only if a flatten follows (a filter then takes no right-hand side), every stack accepts -/
def EndOK (κ0 : Kont N) (st : PState) (rest : List Token) : Prop :=
  PrhsRun κ0 st ∧ ((∃ t tl, rest = t :: tl ∧ t.ty = .flatten) → ∀ κ, Stk κ0 κ → ∀ r, κ r st)

section
variable {κ0 : Kont N} {st : PState} {rest : List Token}

theorem EndOK.prhs (h : EndOK κ0 st rest) : PrhsRun κ0 st := h.1

theorem EndOK.of_allRun (h : AllRun κ0 st) : EndOK κ0 st rest :=
  ⟨h.prhs, fun _ _ hκ => h.accepts hκ⟩

theorem EndOK.of_prhs (hl : HeadLB rest) (h : PrhsRun κ0 st) : EndOK κ0 st rest := by
  refine ⟨h, ?_⟩
  rintro ⟨t, tl, rfl, ht⟩
  obtain ⟨_, _, e, ht'⟩ := hl
  cases e
  rw [ht] at ht'; cases ht'

end

/-- projection brackets (`[*]`, `[]`, slices, filters): led and nud, needing only `EndOK` afterwards -/
def MotBrP (N : Type) [NumOps N] (s : List Token) : Prop :=
  ∃ t tl, s = t :: tl ∧ (t.ty = .lbracket ∨ t.ty = .flatten ∨ t.ty = .filter) ∧
    (∀ (κ0 : Kont N) (k : Nat) (κ1 : Kont N) (left : Node N) (bef rest : List Token), Frame κ0 k κ1 → rest ≠ [] →
      EndOK κ0 ⟨s.reverse ++ bef, rest⟩ rest → CallK (.led t.ty left ⟨t :: bef, tl ++ rest⟩) (pushK k id κ1)) ∧
    (∀ (κ0 : Kont N) (k : Nat) (κ1 : Kont N) (bef rest : List Token), Frame κ0 k κ1 → rest ≠ [] →
      EndOK κ0 ⟨s.reverse ++ bef, rest⟩ rest → CallK (.nud t ⟨t :: bef, tl ++ rest⟩) (pushK k id κ1))

theorem MotBrP.toBr {s : List Token} (h : MotBrP N s) : MotBr N s := by
  obtain ⟨t, tl, rfl, hty, hled, hnud⟩ := h
  exact ⟨t, tl, rfl, hty, fun κ0 k κ1 left bef rest hf hfo hall => hled κ0 k κ1 left bef rest hf (followOK_ne hfo) (.of_allRun hall),
    fun κ0 k κ1 bef rest hf hfo hall => hnud κ0 k κ1 bef rest hf (followOK_ne hfo) (.of_allRun hall)⟩

theorem MotBrP.of_led {t : Token} {tl : List Token} (hty : headOK .bracket t.ty)
    (hled : ∀ (κ0 : Kont N) (k : Nat) (κ1 : Kont N) (left : Node N) (bef rest : List Token), Frame κ0 k κ1 → rest ≠ [] →
      EndOK κ0 ⟨(t :: tl).reverse ++ bef, rest⟩ rest → CallK (.led t.ty left ⟨t :: bef, tl ++ rest⟩) (pushK k id κ1)) :
    MotBrP N (t :: tl) :=
  ⟨t, tl, rfl, hty, hled, fun κ0 k κ1 bef rest hf hne hall =>
    let ⟨x, p1, hR, hκ⟩ := hled κ0 k κ1 .identity bef rest hf hne hall
    ⟨x, p1, nud_of_led hty hR, hκ⟩⟩

theorem br_star {l s r : Token} (hl : l.ty = .lbracket) (hs : s.ty = .star) (hr : r.ty = .rbracket) : MotBrP N [l, s, r] :=
  .of_led (.inl hl) fun κ0 k κ1 left bef rest hf _ hall => by
    obtain ⟨x, p1, hR, hκ⟩ := hall.prhs _ (hf (fun x => .proj left x)) T.ledBracketStar (by decide)
    rw [hl]
    exact ⟨_, p1, R.ledBracketStar rfl hs hr hR, hκ⟩

theorem optNum_cases {l : List Token} (h : OptNum l) (hok : NumOK l) : ∃ v : Option Int, ∀ l', ToksRel l l' → OptVal l' v := by
  rcases h with rfl | ⟨n, rfl, hn⟩
  · exact ⟨none, fun l' h => by cases h; exact .inl ⟨rfl, rfl⟩⟩
  · obtain ⟨i, hi⟩ := Option.isSome_iff_exists.mp (hok.head hn)
    refine ⟨some i, fun l' h => ?_⟩
    cases h with
    | cons htt hr => cases hr; exact .inr ⟨_, i, rfl, htt.ty_eq hn, htt.value_of hn rfl ▸ hi, rfl⟩

omit [NumOps N] in
/-- for every token list like `s`, not `s` alone: Proofs/Sim.lean needs it along `ToksRel` -/
theorem slice_parse_rel {s : List Token} (hs : SliceG s) (hok : NumOK s) :
    ∃ nd : Node N, isSliceNode nd = true ∧ (∃ t tl, s = t :: tl ∧ (t.ty = .number ∨ t.ty = .colon)) ∧
      ∀ s', ToksRel s s' → ∀ (bef rest : List Token) (r : Token), r.ty = .rbracket →
        parseIndexExpression (N := N) ⟨bef, s' ++ r :: rest⟩ = .ok (nd, ⟨r :: (s'.reverse ++ bef), rest⟩) := by
  obtain ⟨a, c1, b, ha, hc1, hb, hs⟩ := hs
  have hhead : ∀ tl, ∃ t tl', a ++ c1 :: tl = t :: tl' ∧ (t.ty = .number ∨ t.ty = .colon) := fun tl => by
    rcases ha with rfl | ⟨n, rfl, hn⟩
    · exact ⟨c1, tl, rfl, .inr hc1⟩
    · exact ⟨n, _, rfl, .inl hn⟩
  -- the node is the three values; `parseIndex_of_parts` reads the parts of `s'`, which are like those of `s`
  rcases hs with rfl | ⟨c2, c, hc2, hc, rfl⟩
  · obtain ⟨va, ha'⟩ := optNum_cases ha hok.left
    obtain ⟨vb, hb'⟩ := optNum_cases hb hok.right.tail
    refine ⟨.slice va vb none, rfl, hhead _, fun s' hrel bef rest r hr => ?_⟩
    obtain ⟨a', _, rfl, haa, h1⟩ := hrel.append_inv
    cases h1 with
    | @cons _ c1' _ b' hcc hbb =>
    simpa [List.reverse_append] using
      parseIndex_of_parts (N := N) (ha' a' haa) (hb' b' hbb) (.inl ⟨rfl, rfl⟩) (hcc.ty_eq hc1) hr bef rest
  · obtain ⟨va, ha'⟩ := optNum_cases ha hok.left
    obtain ⟨vb, hb'⟩ := optNum_cases hb hok.right.tail.left
    obtain ⟨vc, hc'⟩ := optNum_cases hc hok.right.tail.right.tail
    refine ⟨.slice va vb vc, rfl, hhead _, fun s' hrel bef rest r hr => ?_⟩
    obtain ⟨a', _, rfl, haa, h1⟩ := hrel.append_inv
    cases h1 with
    | @cons _ c1' _ _ hcc h2 =>
    obtain ⟨b', _, rfl, hbb, h3⟩ := h2.append_inv
    cases h3 with
    | @cons _ c2' _ c' hcc2 hcc' =>
    simpa [List.reverse_append] using
      parseIndex_of_parts (N := N) (ha' a' haa) (hb' b' hbb) (.inr ⟨c2', c', rfl, hcc2.ty_eq hc2, hc' c' hcc'⟩) (hcc.ty_eq hc1) hr
        bef rest

omit [NumOps N] in
theorem slice_parse {s : List Token} (hs : SliceG s) (hok : NumOK s) :
    ∃ nd : Node N, isSliceNode nd = true ∧ (∃ t tl, s = t :: tl ∧ (t.ty = .number ∨ t.ty = .colon)) ∧
      ∀ (bef rest : List Token) (r : Token), r.ty = .rbracket →
        parseIndexExpression (N := N) ⟨bef, s ++ r :: rest⟩ = .ok (nd, ⟨r :: (s.reverse ++ bef), rest⟩) := by
  obtain ⟨nd, hnd, hhead, hparse⟩ := slice_parse_rel hs hok
  exact ⟨nd, hnd, hhead, hparse s (.refl s)⟩

/-- a phrase that starts with `*` does not continue with `]`: so the parser's look at the token after `[*` tells the bracket
    specifier `[*]` from a list whose first element starts with `*` (`listShape_of_elems`) -/
def StarSnd (s : List Token) : Prop := ∀ x y ys, s = x :: y :: ys → x.ty = .star → y.ty ≠ .rbracket

theorem starSnd_append {a b : List Token} (ha : a ≠ []) (iha : StarSnd a) (hb : ∀ t, b.head? = some t → t.ty ≠ .rbracket) :
    StarSnd (a ++ b) := by
  intro x y ys h hx
  cases a with
  | nil => exact absurd rfl ha
  | cons x' a' =>
    cases a' with
    | nil =>
      simp only [List.cons_append, List.nil_append, List.cons.injEq] at h
      exact hb y (by rw [h.2]; rfl)
    | cons y' a'' =>
      obtain ⟨rfl, rfl, _⟩ := h
      exact iha _ _ _ rfl hx

theorem starSnd_of_head {s : List Token} (h : ∀ t, s.head? = some t → t.ty ≠ .star) : StarSnd s :=
  fun x _ _ hs hx => absurd hx (h x (by rw [hs]; rfl))

theorem G_head_ne {l : Bool} {c : Cat} {b : List Token} (h : G N l c b) {t : Token} (e : b.head? = some t)
    (hc : c ∈ [Cat.bracket, .msList, .msHash, .call]) : t.ty ≠ .rbracket ∧ t.ty ≠ .star := by
  obtain ⟨t', tl, rfl, ht⟩ := G_head h
  cases e
  simp only [List.mem_cons, List.not_mem_nil, or_false] at hc
  rcases hc with rfl | rfl | rfl | rfl
  · rcases ht with ht | ht | ht <;> rw [ht] <;> decide
  all_goals rw [show t.ty = _ from ht]; decide

theorem G_starSnd {l : Bool} {c : Cat} {s : List Token} (h : G N l c s) : (c = .expr ∨ c = .elems ∨ c = .openExpr) → StarSnd s := by
  intro hc
  induction h with
  | ident _ | star _ | current _ | raw _ | literal _ _ | openStar _ => intro x y ys h; cases h
  | sub ha hd _ ih _ | elemsMore ha hd _ ih _ | openDotStar ha hd _ ih =>
    exact starSnd_append (G_ne ha) (ih (.inl rfl)) fun _ e => by cases e; rw [hd]; decide
  | bin ha ho _ ih _ =>
    exact starSnd_append (G_ne ha) (ih (.inl rfl)) fun _ e => by cases e; exact isBinOp_ne ho
  | index ha hb ih _ | openIdx ha hb _ ih _ =>
    exact starSnd_append (G_ne ha) (ih (.inl rfl)) fun t e => (G_head_ne hb e (by decide)).1
  | lenientList _ ha hb ih _ =>
    exact starSnd_append (G_ne ha) (ih (.inr (.inr rfl))) fun t e => (G_head_ne hb e (by decide)).1
  | not h _ _ | paren h _ _ _ => exact starSnd_of_head fun _ e => by cases e; rw [h]; decide
  | index0 hb _ | list hb _ | hash hb _ | fn hb _ | openIdx0 hb _ _ =>
    exact starSnd_of_head fun t e => (G_head_ne hb e (by decide)).2
  | elemsOne _ ih => exact ih (.inl rfl)
  | _ => rcases hc with h | h | h <;> cases h

/-- the elements up to `]`, as the `msl` loop reads them (`MotKvs`: the same for `{`) -/
def MotElems (N : Type) [NumOps N] (s : List Token) : Prop :=
  ∀ (acc : List (Node N)) (bef : List Token) (r : Token) (rest' : List Token) (κ : Kont N), r.ty = .rbracket →
    (∀ n, κ n ⟨r :: (s.reverse ++ bef), rest'⟩) → CallK (.msl ⟨bef, s ++ r :: rest'⟩ acc) κ

/-- after `[`: `*]` is a bracket specifier; anything else that can start an expression is a list -/
def ListShape (tl : List Token) : Prop :=
  (∃ x r, tl = [x, r] ∧ x.ty = .star ∧ r.ty = .rbracket) ∨
  (∃ x y ys, tl = x :: y :: ys ∧ startTy x.ty = true ∧ ¬ (x.ty = .star ∧ y.ty = .rbracket))

theorem listShape_of_elems {lz : Bool} {e : List Token} {r : Token} (he : G N lz .elems e) (hr : r.ty = .rbracket) :
    ListShape (e ++ [r]) := by
  obtain ⟨x, xs, rfl, hx⟩ := G_head he
  cases xs with
  | nil =>
    by_cases hs : x.ty = .star
    · exact .inl ⟨x, r, rfl, hs, hr⟩
    · exact .inr ⟨x, r, [], rfl, hx, fun h => hs h.1⟩
  | cons y ys => exact .inr ⟨x, y, ys ++ [r], rfl, hx, fun h => G_starSnd he (.inr (.inl rfl)) x y ys rfl h.1 h.2⟩

def MotList (N : Type) [NumOps N] (s : List Token) : Prop :=
  ∃ l tl, s = l :: tl ∧ l.ty = .lbracket ∧ ListShape tl ∧
    ∀ (κ : Kont N) (bef rest : List Token), (∀ x, κ x ⟨s.reverse ++ bef, rest⟩) → CallK (.msl ⟨l :: bef, tl ++ rest⟩ []) κ

theorem pe_list {b : List Token} (ih : MotList N b) : MotE N b := by
  obtain ⟨l, tl, rfl, hl, shape, hmsl⟩ := ih
  intro κ0 k κ1 bef rest hk hf hfo hall
  rcases shape with ⟨x, r, rfl, hx, hr⟩ | ⟨x, y, ys, rfl, hx, hns⟩
  · exact pe_index0 (MotBrP.toBr (br_star hl hx hr)) κ0 k κ1 bef rest hk hf hfo hall
  · obtain ⟨n, p1, hR, hκ⟩ := hmsl (pushK k id κ1) bef rest (hall.accepts (hf id))
    by_cases hs : x.ty = .star
    · exact expr_of_nudK ⟨n, p1, R.nudListStar hl rfl hs (fun h => hns ⟨hs, h⟩) hR, hκ⟩
    · exact expr_of_nudK ⟨n, p1, R.nudList hl rfl (startTy_ne hx rfl) (startTy_ne hx rfl) hs hR, hκ⟩

def MotKvs (N : Type) [NumOps N] (s : List Token) : Prop :=
  ∀ (acc : List (Bytes × Node N)) (bef : List Token) (r : Token) (rest' : List Token) (κ : Kont N), r.ty = .rbrace →
    (∀ n, κ n ⟨r :: (s.reverse ++ bef), rest'⟩) → CallK (.msh ⟨bef, s ++ r :: rest'⟩ acc) κ

def MotHash (N : Type) [NumOps N] (s : List Token) : Prop :=
  ∃ l tl, s = l :: tl ∧ l.ty = .lbrace ∧
    ∀ (κ : Kont N) (bef rest : List Token), (∀ x, κ x ⟨s.reverse ++ bef, rest⟩) → CallK (.msh ⟨l :: bef, tl ++ rest⟩ []) κ

/-- one argument up to `,` or `)`: plain (`κf`), or `&` and an expression (`κt`) -/
def MotArg (N : Type) [NumOps N] (s : List Token) : Prop :=
  ∀ (bef rest : List Token) (κf κt : Kont N), (∃ t tl, rest = t :: tl ∧ (t.ty = .comma ∨ t.ty = .rparen)) →
    (∀ e, κf e ⟨s.reverse ++ bef, rest⟩) → (∀ e, κt e ⟨s.reverse ++ bef, rest⟩) →
    ∃ t0 s', s = t0 :: s' ∧ ((t0.ty ≠ .expref ∧ CallK (.expr 0 ⟨bef, s ++ rest⟩) κf) ∨
      (t0.ty = .expref ∧ CallK (.expr 0 ⟨t0 :: bef, s' ++ rest⟩) κt))

/-- the arguments up to `)`; the first token is not `)` (that is `call0`) -/
def MotArgs (N : Type) [NumOps N] (s : List Token) : Prop :=
  (∃ t0 tl, s = t0 :: tl ∧ t0.ty ≠ .rparen) ∧
  ∀ (bef : List Token) (r : Token) (rest' : List Token) (κa : List (Bool × Node N) → PState → Prop), r.ty = .rparen →
    (∀ as, κa as ⟨s.reverse ++ bef, r :: rest'⟩) → CallA (.args ⟨bef, s ++ r :: rest'⟩) κa

theorem arg_head {lz : Bool} {s : List Token} (h : G N lz .arg s) : ∃ t0 tl, s = t0 :: tl ∧ t0.ty ≠ .rparen := by
  obtain ⟨t, tl, rfl, ht⟩ := G_head h
  refine ⟨t, tl, rfl, ?_⟩
  rcases ht with ht | ht
  · exact startTy_ne ht rfl
  · rw [ht]; decide

/-- a call: the identifier is read as a field, and `(` is a led whose power is above every level a loop runs at -/
theorem call_of_led {f l : Token} {k : Nat} {κ : Kont N} {bef tl : List Token} (hf : f.ty = .uident) (hl : l.ty = .lparen)
    (hk : k ≤ 45) (h : CallK (.led .lparen (.field f.value) ⟨l :: f :: bef, tl⟩) (pushK k id κ)) :
    CallK (.expr k ⟨bef, f :: l :: tl⟩) κ :=
  expr_of_nudK ⟨.field f.value, _, R.nudIdent hf, loop_of_ledK (by rw [hl]; exact Nat.lt_of_le_of_lt hk (by decide)) (hl ▸ h)⟩

def MotOpen (N : Type) [NumOps N] (s : List Token) : Prop :=
  ∀ (κ0 : Kont N) (k : Nat) (κ1 : Kont N) (bef rest : List Token), k ≤ 45 → Frame κ0 k κ1 → HeadLB rest →
    PrhsRun κ0 ⟨s.reverse ++ bef, rest⟩ → CallK (.expr k ⟨bef, s ++ rest⟩) κ1

def ExtO (N : Type) [NumOps N] (s : List Token) : Prop :=
  ∀ (κ0 : Kont N) (bef rest : List Token), HeadLB rest → PrhsRun κ0 ⟨s.reverse ++ bef, rest⟩ →
    AllRun κ0 ⟨bef, s ++ rest⟩ ∧ FollowOK (s ++ rest)

theorem open_append {a s : List Token} (iha : MotE N a) (hs : ExtO N s) : MotOpen N (a ++ s) := by
  intro κ0 k κ1 bef rest hk hf hlb hp
  rw [List.reverse_append, List.append_assoc] at hp
  obtain ⟨h1, h2⟩ := hs κ0 (a.reverse ++ bef) rest hlb hp
  rw [List.append_assoc]
  exact iha κ0 k κ1 bef (s ++ rest) hk hf h2 h1

theorem open_star {t : Token} (h : t.ty = .star) : MotOpen N [t] := by
  intro κ0 k κ1 bef rest hk hf hlb hp
  obtain ⟨u, tl, rfl, hu⟩ := hlb
  obtain ⟨r, p1, hR, hκ⟩ := hp _ (hf (fun r => .valueProj .identity r)) T.nudStar (by decide)
  exact expr_of_nudK ⟨_, _, R.nudStar h rfl (by rw [hu]; decide) hR, hκ⟩

theorem pe_lenient {a b : List Token} (iha : MotOpen N a) (ihb : MotList N b) : MotE N (a ++ b) := by
  intro κ0 k κ1 bef rest hk hf hfo hall
  have hE : MotE N b := pe_list ihb
  obtain ⟨l, tl, rfl, hl, _, _⟩ := ihb
  have hall' : AllRun κ0 ⟨(l :: tl).reverse ++ (a.reverse ++ bef), rest⟩ := by
    simpa [List.reverse_append, List.append_assoc] using hall
  have hp : PrhsRun κ0 ⟨a.reverse ++ bef, (l :: tl) ++ rest⟩ := by
    intro κ hκ bp hbp
    obtain ⟨r, p1, hR, hk'⟩ := hE κ0 bp κ (a.reverse ++ bef) rest hbp (.of_stk hκ) hfo hall'
    exact ⟨r, p1, R.prhsBracket rfl (by rw [T_power, hl]; decide) (Or.inl hl) hR, hk'⟩
  simpa [List.append_assoc] using iha κ0 k κ1 bef ((l :: tl) ++ rest) hk hf ⟨l, _, rfl, hl⟩ hp

def Mot (N : Type) [NumOps N] : Cat → List Token → Prop
  | .expr, s => MotE N s
  | .dotRhs, s => MotDotA N s ∧ MotDotB N s
  | .bracket, s => MotBr N s ∧ (ProjBr s → MotBrP N s)
  | .msList, s => MotList N s
  | .msHash, s => MotHash N s
  | .call, s => MotE N s
  | .elems, s => MotElems N s
  | .kvs, s => MotKvs N s
  | .args, s => MotArgs N s
  | .arg, s => MotArg N s
  | .openExpr, s => MotOpen N s

theorem MotBrP.toMot {s : List Token} (h : MotBrP N s) : Mot N .bracket s := ⟨MotBrP.toBr h, fun _ => h⟩

theorem G_true_complete {c : Cat} {s : List Token} (h : G N true c s) : Mot N c s := by
  induction h with
  | ident h => exact pe_ident h
  | star h => exact pe_star h
  | current h => exact pe_atom fun _ => R.nudCurrent h
  | raw h => exact pe_atom fun _ => R.nudRaw h
  | literal h hd =>
    obtain ⟨v, hv⟩ := Option.isSome_iff_exists.mp hd
    exact pe_atom fun _ => R.nudJson h hv
  | sub _ hd _ iha ihb =>
    refine pe_append iha fun κ0 bef rest hfo hall => ?_
    rw [List.reverse_cons, List.append_assoc] at hall
    exact allRun_dot hd (fun k left κ hf => ihb.2 κ0 k κ left _ rest hf hfo hall)
      fun κ hκ bp hbp => ihb.1 κ0 κ bp _ rest hbp hκ hfo hall
  | bin _ ho _ iha ihb =>
    refine pe_append iha fun κ0 bef rest hfo hall => ?_
    rw [List.reverse_cons, List.append_assoc] at hall
    obtain ⟨hp0, hp10, hft⟩ := binop_pow ho
    obtain ⟨lvl, mk, hl, H⟩ := led_of_binop (N := N) ho
    refine ⟨allRun_low hp10 (dispatch hp0 fun k left κ _ hf => ?_), _, _, rfl, hft⟩
    obtain ⟨r, p1, hR, hκ⟩ := ihb κ0 lvl (pushK k (mk left) κ) _ rest hl hf.push hfo hall
    exact ⟨mk left r, p1, H hR, hκ⟩
  | @not t a h _ iha =>
    intro κ0 k κ1 bef rest hk hf hfo hall
    obtain ⟨e, p1, hR, hκ⟩ := iha κ0 T.nudNot (pushK k (fun e => .not e) κ1) (t :: bef) rest (by decide) hf.push hfo
      (by simpa [List.append_assoc] using hall)
    exact expr_of_nudK ⟨.not e, p1, R.nudNot h hR, hκ⟩
  | @paren l a r hl _ hr iha =>
    intro κ0 k κ1 bef rest hk hf hfo hall
    have hall' : AllRun κ0 ⟨r :: (a.reverse ++ (l :: bef)), rest⟩ := by
      simpa [List.reverse_append, List.append_assoc] using hall
    obtain ⟨e, p1, hR, t, tl, hafter, hty, hκ⟩ := iha.enter hr
      (κ := fun e p1 => ∃ t tl, p1.after = t :: tl ∧ t.ty = .rparen ∧ pushK k id κ1 e p1.advance)
      fun x => ⟨r, rest, rfl, hr, hall'.accepts (hf id) x⟩
    simpa [List.append_assoc] using expr_of_nudK ⟨e, p1.advance, R.nudParen hl hR hafter hty, hκ⟩
  | index _ _ iha ihb =>
    obtain ⟨t, tl, rfl, hty, hled, hnud⟩ := ihb.1
    exact pe_append iha fun κ0 bef rest hfo hall =>
      allRun_br hty (fun k left κ hf => hled κ0 k κ left bef rest hf hfo hall) (fun k κ hf => hnud κ0 k κ bef rest hf hfo hall)
  | index0 _ ihb => exact pe_index0 ihb.1
  | list _ ih => exact pe_list ih
  | hash _ ih =>
    obtain ⟨l, tl, rfl, hl, hmsh⟩ := ih
    intro κ0 k κ1 bef rest hk hf hfo hall
    obtain ⟨n, p1, hR, hκ⟩ := hmsh (pushK k id κ1) bef rest (hall.accepts (hf id))
    exact expr_of_nudK ⟨n, p1, R.nudHash hl hR, hκ⟩
  | fn _ ih => exact ih
  | lenientList _ _ _ iha ihb => exact pe_lenient iha ihb
  | openIdx _ _ hpb iha ihb =>
    obtain ⟨t, tl, rfl, hty, hled, hnud⟩ := ihb.2 hpb
    exact open_append iha fun κ0 bef rest hlb hp =>
      allRun_br hty (fun k left κ hf => hled κ0 k κ left bef rest hf (headLB_ne hlb) (.of_prhs hlb hp))
        (fun k κ hf => hnud κ0 k κ bef rest hf (headLB_ne hlb) (.of_prhs hlb hp))
  | openIdx0 _ hpb ihb =>
    intro κ0 k κ1 bef rest hk hf hlb hp
    obtain ⟨t, tl, rfl, hty, hled, hnud⟩ := ihb.2 hpb
    exact expr_of_nudK (hnud κ0 k κ1 bef rest hf (headLB_ne hlb) (.of_prhs hlb hp))
  | openDotStar _ hd hs iha =>
    refine open_append iha fun κ0 bef rest hlb hp => allRun_dot hd (fun k left κ hf => ?_) fun κ hκ bp hbp => ?_
    · obtain ⟨r, p1, hR, hκ⟩ := hp _ (hf (fun r => .valueProj left r)) T.ledDotStar (by decide)
      exact ⟨.valueProj left r, p1, R.ledDotStar rfl hs hR, hκ⟩
    · obtain ⟨r, p1, hR, hk⟩ := open_star hs κ0 bp κ _ rest hbp (.of_stk hκ) hlb hp
      exact ⟨r, p1, R.dotStar rfl hs hR, hk⟩
  | openStar hs => exact open_star hs
  | dotIdent h =>
    refine dot_of_dotA ?_ (dotA_of_expr (Or.symm h) (pe_ident h))
    rcases h with h | h <;> rw [h] <;> decide
  | dotStar h =>
    constructor
    · intro κ0 κ bp bef rest hbp hκ hfo hall
      obtain ⟨r, p1, hR, hk⟩ := pe_star h κ0 bp κ bef rest hbp (.of_stk hκ) hfo hall
      exact ⟨r, p1, R.dotStar rfl h hR, hk⟩
    · intro κ0 k κ1 left bef rest hf hfo hall
      obtain ⟨r, p1, hR, hκ⟩ := hall.prhs _ (hf (fun r => .valueProj left r)) T.ledDotStar (by decide)
      exact ⟨.valueProj left r, p1, R.ledDotStar rfl h hR, hκ⟩
  | dotList _ ih =>
    obtain ⟨l, tl, rfl, hl, _, hmsl⟩ := ih
    refine dot_of_dotA (by rw [hl]; decide) fun κ0 κ bp bef rest hbp hκ hfo hall => ?_
    obtain ⟨n, p1, hR, hk⟩ := hmsl κ bef rest (hall.accepts hκ)
    exact ⟨n, p1, R.dotList rfl hl hR, hk⟩
  | dotHash _ ih =>
    obtain ⟨l, tl, rfl, hl, hmsh⟩ := ih
    refine dot_of_dotA (by rw [hl]; decide) fun κ0 κ bp bef rest hbp hκ hfo hall => ?_
    obtain ⟨n, p1, hR, hk⟩ := hmsh κ bef rest (hall.accepts hκ)
    exact ⟨n, p1, R.dotHash rfl hl hR, hk⟩
  | dotFn hb ih =>
    obtain ⟨t, tl, rfl, (ht : t.ty = .uident)⟩ := G_head hb
    exact dot_of_dotA (by rw [ht]; decide) (dotA_of_expr (Or.inr ht) ih)
  | brNumber hl hn hr hno =>
    obtain ⟨i, hi⟩ := Option.isSome_iff_exists.mp ((hno rfl).head hn)
    refine ⟨⟨_, _, rfl, Or.inl hl, ?_, ?_⟩, fun hp => absurd hn (hp _ _ _ rfl)⟩
    · intro κ0 k κ1 left bef rest hf hfo hall
      rw [hl]
      exact ⟨_, _, R.ledIndex rfl hn hr hi, hall.accepts (hf id) (.indexExpr left (.index i))⟩
    · intro κ0 k κ1 bef rest hf hfo hall
      exact ⟨_, _, R.nudIndex hl rfl hn hr hi, hall.accepts (hf id) (.indexExpr .identity (.index i))⟩
  | brStar hl hs hr => exact MotBrP.toMot (br_star hl hs hr)
  | @brSlice l s r hl hs hr hno =>
    obtain ⟨nd, hnd, ⟨t, tl, rfl, htt⟩, hparse⟩ := slice_parse hs (hno rfl)
    refine MotBrP.toMot (.of_led (.inl hl) fun κ0 k κ1 left bef rest hf _ hall => ?_)
    have hall' : EndOK κ0 ⟨r :: ((t :: tl).reverse ++ (l :: bef)), rest⟩ rest := by
      simpa [List.reverse_append, List.append_assoc] using hall
    obtain ⟨x, p1, hR, hκ⟩ := hall'.prhs _ (hf (fun x => .proj (.indexExpr left nd) x)) T.sliceProj (by decide)
    rw [hl, List.append_eq, List.append_assoc]
    exact ⟨_, p1, R.ledBracketIdx rfl htt (hparse (l :: bef) rest r hr) (R.pisSlice hnd hR), hκ⟩
  | brFlatten h =>
    refine MotBrP.toMot (.of_led (.inr (.inl h)) fun κ0 k κ1 left bef rest hf _ hall => ?_)
    obtain ⟨x, p1, hR, hκ⟩ := hall.prhs _ (hf (fun x => .proj (.flatten left) x)) T.ledFlatten (by decide)
    rw [h]
    exact ⟨_, p1, R.ledFlatten hR, hκ⟩
  | @brFilter l e r hl _ hr ihe =>
    refine MotBrP.toMot (.of_led (.inr (.inr hl)) fun κ0 k κ1 left bef rest hf hne hall => ?_)
    obtain ⟨u, tl, rfl⟩ := List.exists_cons_of_ne_nil hne
    have hall' : EndOK κ0 ⟨r :: (e.reverse ++ (l :: bef)), u :: tl⟩ (u :: tl) := by
      simpa [List.reverse_append, List.append_assoc] using hall
    rw [hl, List.append_eq, List.append_assoc]
    -- the condition is read up to `]`; what follows is a flatten (then there is no right-hand side) or a right-hand side
    by_cases hfl : u.ty = .flatten
    · obtain ⟨cond, p1, hR, rb, t, rest', hafter, hrb, ht, hκ⟩ := ihe.enter hr
        (κ := fun cond p1 => ∃ rb t rest', p1.after = rb :: t :: rest' ∧ rb.ty = .rbracket ∧ t.ty = .flatten ∧
          pushK k id κ1 (.filterProj left .identity cond) p1.advance)
        fun _ => ⟨r, u, tl, rfl, hr, hfl, hall'.2 ⟨u, tl, rfl, hfl⟩ _ (hf id) _⟩
      exact ⟨_, _, R.ledFilter (R.filterFlat hR hafter hrb ht), hκ⟩
    · obtain ⟨cond, p1, hR, rb, t, rest', hafter, hrb, ht, x, p2, hR2, hκ⟩ := ihe.enter hr
        (κ := fun cond p1 => ∃ rb t rest', p1.after = rb :: t :: rest' ∧ rb.ty = .rbracket ∧ t.ty ≠ .flatten ∧
          CallK (.prhs T.filterRhs p1.advance) (fun x p2 => pushK k id κ1 (.filterProj left x cond) p2))
        fun x => ⟨r, u, tl, rfl, hr, hfl, hall'.prhs _ (hf (fun y => .filterProj left y x)) T.filterRhs (by decide)⟩
      exact ⟨_, p2, R.ledFilter (R.filterRhs hR hafter hrb ht hR2), hκ⟩
  | @msList l e r hl he hr ihe =>
    refine ⟨l, e ++ [r], rfl, hl, listShape_of_elems he hr, fun κ bef rest hκ => ?_⟩
    simpa [List.append_assoc] using ihe [] (l :: bef) r rest κ hr (fun n => by simpa [List.reverse_append, List.append_assoc] using hκ n)
  | elemsOne _ iha =>
    intro acc bef r rest' κ hr hκ
    obtain ⟨e, p1, hR, t, tl, hafter, hty, hk⟩ := iha.enter hr
      (κ := fun e p1 => ∃ t tl, p1.after = t :: tl ∧ t.ty = .rbracket ∧ κ (.msList (e :: acc).reverse) p1.advance)
      fun x => ⟨r, rest', rfl, hr, hκ _⟩
    exact ⟨_, _, R.mslLast hR hafter hty, hk⟩
  | @elemsMore a c b _ hc _ iha ihb =>
    intro acc bef r rest' κ hr hκ
    obtain ⟨e, p1, hR, t, tl, hafter, hty, x, st', hR2, hk⟩ := iha.enter hc
      (κ := fun e p1 => ∃ t tl, p1.after = t :: tl ∧ t.ty = .comma ∧ CallK (.msl p1.advance (e :: acc)) κ)
      fun x => ⟨c, _, rfl, hc, ihb (x :: acc) (c :: (a.reverse ++ bef)) r rest' κ hr fun n => by
        simpa [List.reverse_append, List.append_assoc] using hκ n⟩
    rw [List.append_assoc]
    exact ⟨x, st', R.mslMore hR hafter hty hR2, hk⟩
  | @msHash l e r hl _ hr ihe =>
    refine ⟨l, e ++ [r], rfl, hl, fun κ bef rest hκ => ?_⟩
    simpa [List.append_assoc] using ihe [] (l :: bef) r rest κ hr (fun n => by simpa [List.reverse_append, List.append_assoc] using hκ n)
  | @kvsOne k c a hk hc _ iha =>
    intro acc bef r rest' κ hr hκ
    obtain ⟨v, p2, hR, t, tl, hafter, hty, hk'⟩ := iha.enter hr
      (κ := fun v p2 => ∃ t tl, p2.after = t :: tl ∧ t.ty = .rbrace ∧ κ (.msHash ((k.value, v) :: acc).reverse) p2.advance)
      fun x => ⟨r, rest', rfl, hr, by simpa [PState.advance, List.append_assoc] using hκ _⟩
    exact ⟨_, _, R.mshLast rfl hk hc hR hafter hty, hk'⟩
  | @kvsMore k c a m b hk hc _ hm _ iha ihb =>
    intro acc bef r rest' κ hr hκ
    obtain ⟨v, p2, hR, t, tl, hafter, hty, x, st', hR2, hk'⟩ := iha.enter hm
      (κ := fun v p2 => ∃ t tl, p2.after = t :: tl ∧ t.ty = .comma ∧ CallK (.msh p2.advance ((k.value, v) :: acc)) κ)
      fun x => ⟨m, _, rfl, hm, ihb ((k.value, x) :: acc) (m :: (a.reverse ++ (c :: k :: bef))) r rest' κ hr fun n => by
        simpa [List.reverse_append, List.append_assoc] using hκ n⟩
    rw [List.append_assoc]
    exact ⟨x, st', R.mshMore rfl hk hc hR hafter hty hR2, hk'⟩
  | @call0 f l r hf hl hr =>
    intro κ0 k κ1 bef rest hk hfr hfo hall
    exact call_of_led hf hl hk ⟨.call f.value [], _, R.ledCall0 rfl hf rfl hr, hall.accepts (hfr id) (.call f.value [])⟩
  | @callArgs f l a r hf hl _ hr iha =>
    intro κ0 k κ1 bef rest hk hfr hfo hall
    obtain ⟨⟨a0, atl, rfl, ha0⟩, iha⟩ := iha
    have hall' : AllRun κ0 ⟨r :: ((a0 :: atl).reverse ++ (l :: f :: bef)), rest⟩ := by
      simpa [List.reverse_append, List.append_assoc] using hall
    obtain ⟨as, p1, hR, t, tl, hafter, hty, hκ⟩ := iha (l :: f :: bef) r rest
      (fun as p1 => ∃ t tl, p1.after = t :: tl ∧ t.ty = .rparen ∧ pushK k id κ1 (.call f.value as) p1.advance) hr
      (fun as => ⟨r, rest, rfl, hr, hall'.accepts (hfr id) _⟩)
    simpa [List.append_assoc] using call_of_led hf hl hk ⟨.call f.value as, p1.advance, R.ledCall rfl hf rfl ha0 hR hafter hty, hκ⟩
  | argsOne ha iha =>
    refine ⟨arg_head ha, ?_⟩
    intro bef r rest' κa hr hκ
    let κ (x : Bool) : Kont N := fun e p1 => ∃ t tl, p1.after = t :: tl ∧ t.ty = .rparen ∧ κa [(x, e)] p1
    obtain ⟨t0, s', rfl, h⟩ := iha bef (r :: rest') (κ false) (κ true) ⟨r, rest', rfl, Or.inr hr⟩
      (fun e => ⟨r, rest', rfl, hr, hκ _⟩) (fun e => ⟨r, rest', rfl, hr, hκ _⟩)
    rcases h with ⟨hne, e, p1, hR, t, tl, hafter, hty, hk⟩ | ⟨heq, e, p1, hR, t, tl, hafter, hty, hk⟩
    · exact ⟨_, p1, R.argPlainLast rfl hne hR hafter hty, hk⟩
    · exact ⟨_, p1, R.argRefLast rfl heq hR hafter hty, hk⟩
  | @argsMore a c b ha hc _ iha ihb =>
    obtain ⟨⟨b0, btl, rfl, hb0⟩, ihb⟩ := ihb
    refine ⟨?_, ?_⟩
    · obtain ⟨t0, tl, rfl, h0⟩ := arg_head ha
      exact ⟨t0, _, rfl, h0⟩
    intro bef r rest' κa hr hκ
    -- after the argument (`x`: was it `&expr`): a comma, no `)` directly after it, and the remaining arguments
    let κ (x : Bool) : Kont N := fun e p1 => ∃ t tl t2 tl2, p1.after = t :: tl ∧ t.ty = .comma ∧ p1.advance.after = t2 :: tl2 ∧
      t2.ty ≠ .rparen ∧ CallA (.args p1.advance) (fun as p3 => κa ((x, e) :: as) p3)
    have hκ' : ∀ x e, κ x e ⟨a.reverse ++ bef, c :: ((b0 :: btl) ++ r :: rest')⟩ := fun x e =>
      ⟨c, _, b0, btl ++ r :: rest', rfl, hc, rfl, hb0,
        ihb (c :: (a.reverse ++ bef)) r rest' _ hr (fun as => by
          simpa [List.reverse_append, List.append_assoc] using hκ ((x, e) :: as))⟩
    obtain ⟨t0, s', rfl, h⟩ := iha bef (c :: ((b0 :: btl) ++ r :: rest')) (κ false) (κ true) ⟨c, _, rfl, Or.inl hc⟩
      (hκ' false) (hκ' true)
    rw [List.append_assoc]
    rcases h with ⟨hne, e, p1, hR, t, tl, t2, tl2, hafter, hty, hafter2, hty2, as, p3, hR2, hk⟩ |
        ⟨heq, e, p1, hR, t, tl, t2, tl2, hafter, hty, hafter2, hty2, as, p3, hR2, hk⟩
    · exact ⟨_, p3, R.argPlainMore rfl hne hR hafter hty hafter2 hty2 hR2, hk⟩
    · exact ⟨_, p3, R.argRefMore rfl heq hR hafter hty hafter2 hty2 hR2, hk⟩
  | argExpr ha iha =>
    rintro bef rest κf κt ⟨t, tl, rfl, hty⟩ hf ht
    obtain ⟨t0, s', rfl, h0⟩ := G_head ha
    refine ⟨t0, s', rfl, Or.inl ⟨startTy_ne h0 rfl, ?_⟩⟩
    rcases hty with h | h <;> exact iha.enter h hf
  | @argRef t0 a h0 _ iha =>
    rintro bef rest κf κt ⟨t, tl, rfl, hty⟩ hf ht
    refine ⟨t0, a, rfl, Or.inr ⟨h0, ?_⟩⟩
    have ht' : ∀ e, κt e ⟨a.reverse ++ (t0 :: bef), t :: tl⟩ := fun e => by simpa [List.append_assoc] using ht e
    rcases hty with h | h <;> exact iha.enter h ht'

theorem isIdent_ne_number {t : Token} (h : isIdent t) : t.ty ≠ .number := by
  rcases h with h | h <;> rw [h] <;> decide

theorem numOK_of_G {c : Cat} {s : List Token} (h : G N true c s) : NumOK s := by
  induction h with
  | ident hi | dotIdent hi => exact .cons_ne (isIdent_ne_number hi) .nil
  | star h | current h | raw h | literal h _ | dotStar h | brFlatten h | openStar h => exact .cons_ty h .nil
  | sub _ hd _ iha ihb | elemsMore _ hd _ iha ihb | argsMore _ hd _ iha ihb => exact .append iha (.cons_ty hd ihb)
  | bin _ ho _ iha ihb => exact .append iha (.cons_ne (isBinOp_ne ho) ihb)
  | not h _ iha | argRef h _ iha => exact .cons_ty h iha
  | paren hl _ hr iha | brFilter hl _ hr iha | msList hl _ hr iha | msHash hl _ hr iha =>
    exact .cons_ty hl (.append iha (.cons_ty hr .nil))
  | index _ _ iha ihb | lenientList _ _ _ iha ihb | openIdx _ _ _ iha ihb => exact .append iha ihb
  | index0 _ ih | list _ ih | hash _ ih | fn _ ih | dotList _ ih | dotHash _ ih | dotFn _ ih | elemsOne _ ih | argsOne _ ih
  | argExpr _ ih | openIdx0 _ _ ih => exact ih
  | openDotStar _ hd hs iha => exact .append iha (.cons_ty hd (.cons_ty hs .nil))
  | brNumber hl _ hr hno | brSlice hl _ hr hno => exact .cons_ty hl (.append (hno rfl) (.cons_ty hr .nil))
  | brStar hl hs hr | call0 hl hs hr => exact .cons_ty hl (.cons_ty hs (.cons_ty hr .nil))
  | kvsOne hk hc _ iha => exact .cons_ne (isIdent_ne_number hk) (.cons_ty hc iha)
  | kvsMore hk hc _ hm _ iha ihb => exact .cons_ne (isIdent_ne_number hk) (.cons_ty hc (.append iha (.cons_ty hm ihb)))
  | callArgs hf hl _ hr iha => exact .cons_ty hf (.cons_ty hl (.append iha (.cons_ty hr .nil)))

/-- every production is copied; only `brNumber`/`brSlice` look at the range, of their own segment (`NumOK.left/right/tail` cut it out) -/
theorem G_mono {c : Cat} {s : List Token} (h : G N false c s) : NumOK s → G N true c s := by
  intro hok
  induction h with
  | ident h => exact .ident h
  | star h => exact .star h
  | current h => exact .current h
  | raw h => exact .raw h
  | literal h hd => exact .literal h hd
  | sub _ hd _ iha ihb => exact .sub (iha hok.left) hd (ihb hok.right.tail)
  | bin _ ho _ iha ihb => exact .bin (iha hok.left) ho (ihb hok.right.tail)
  | not h _ iha => exact .not h (iha hok.tail)
  | paren hl _ hr iha => exact .paren hl (iha hok.tail.left) hr
  | index _ _ iha ihb => exact .index (iha hok.left) (ihb hok.right)
  | index0 _ ih => exact .index0 (ih hok)
  | list _ ih => exact .list (ih hok)
  | hash _ ih => exact .hash (ih hok)
  | fn _ ih => exact .fn (ih hok)
  | lenientList hl _ _ _ _ => cases hl
  | openIdx _ _ hp iha ihb => exact .openIdx (iha hok.left) (ihb hok.right) hp
  | openIdx0 _ hp ih => exact .openIdx0 (ih hok) hp
  | openDotStar _ hd hs iha => exact .openDotStar (iha hok.left) hd hs
  | openStar h => exact .openStar h
  | dotIdent h => exact .dotIdent h
  | dotStar h => exact .dotStar h
  | dotList _ ih => exact .dotList (ih hok)
  | dotHash _ ih => exact .dotHash (ih hok)
  | dotFn _ ih => exact .dotFn (ih hok)
  | brNumber hl hn hr _ => exact .brNumber hl hn hr (fun _ => hok.tail.left)
  | brStar hl hs hr => exact .brStar hl hs hr
  | brSlice hl hs hr _ => exact .brSlice hl hs hr (fun _ => hok.tail.left)
  | brFlatten h => exact .brFlatten h
  | brFilter hl _ hr ih => exact .brFilter hl (ih hok.tail.left) hr
  | msList hl _ hr ih => exact .msList hl (ih hok.tail.left) hr
  | elemsOne _ ih => exact .elemsOne (ih hok)
  | elemsMore _ hc _ iha ihb => exact .elemsMore (iha hok.left) hc (ihb hok.right.tail)
  | msHash hl _ hr ih => exact .msHash hl (ih hok.tail.left) hr
  | kvsOne hk hc _ ih => exact .kvsOne hk hc (ih hok.tail.tail)
  | kvsMore hk hc _ hm _ iha ihb => exact .kvsMore hk hc (iha hok.tail.tail.left) hm (ihb hok.tail.tail.right.tail)
  | call0 hf hl hr => exact .call0 hf hl hr
  | callArgs hf hl _ hr ih => exact .callArgs hf hl (ih hok.tail.tail.left) hr
  | argsOne _ ih => exact .argsOne (ih hok)
  | argsMore _ hc _ iha ihb => exact .argsMore (iha hok.left) hc (ihb hok.right.tail)
  | argExpr _ ih => exact .argExpr (ih hok)
  | argRef h _ ih => exact .argRef h (ih hok.tail)

theorem G_complete {lz : Bool} {c : Cat} {s : List Token} (h : G N lz c s) : NumOK s → Mot N c s := by
  intro hok
  cases lz with
  | true => exact G_true_complete h
  | false => exact G_true_complete (G_mono h hok)

theorem sentence_parses_exact {toks : List Token} {total : Nat} (hs : Sentence N true toks)
    (htoks : Lexer.TokensOK total toks) : ∃ ast : Node N, parseTokens T toks = .ok ast := by
  obtain ⟨s, e, rfl, he, hg⟩ := hs
  obtain ⟨ast, p1, hR, hp1⟩ := MotE.enter (G_true_complete hg) (κ := fun _ st => st.after = [e]) he fun _ => rfl
  exact ⟨ast, parseTokens_ok_of_R rfl hR ⟨e, [], hp1, he⟩ htoks⟩

theorem sentence_parses {lz : Bool} {toks : List Token} {total : Nat} (hs : Sentence N lz toks) (hnum : NumOK toks)
    (htoks : Lexer.TokensOK total toks) : ∃ ast : Node N, parseTokens T toks = .ok ast := by
  cases lz with
  | true => exact sentence_parses_exact hs htoks
  | false =>
    obtain ⟨s, e, rfl, he, hg⟩ := hs
    exact sentence_parses_exact ⟨s, e, rfl, he, G_mono hg hnum.left⟩ htoks

end Jmes.Parser
