/-
  Proofs.Api — the search operations of the API state machine (Jmes/Api.lean): they leave the state as it is,
  and the answer of a compiled search depends on the state only through the handle and the document it names.
-/
import Jmes.Api
namespace Jmes.Api
variable {N : Type} [NumOps N]

theorem step_searchC_state (cfg : Config) (s : State N) (h d : Nat) : (step cfg s (.searchC h d)).1 = s := by
  simp only [step]; split <;> rfl

theorem step_search_state (cfg : Config) (s : State N) (e : Bytes) (d : Nat) : (step cfg s (.search e d)).1 = s := by
  simp only [step]; split <;> rfl

theorem step_searchC_answer {cfg : Config} {s1 s2 : State N} {h d : Nat}
    (hh : s1.handles.lookup h = s2.handles.lookup h) (hd : s1.docs.lookup d = s2.docs.lookup d) :
    (step cfg s1 (.searchC h d)).2 = (step cfg s2 (.searchC h d)).2 := by
  simp only [step, hh, hd]
  split <;> rfl

end Jmes.Api
