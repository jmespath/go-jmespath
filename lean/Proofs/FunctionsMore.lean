/-
  Proofs.FunctionsMore — what the loops of the built-in functions compute, said once for both kinds of key:
  a strict total order on the keys (numbers under the number laws, strings in Proofs.StrOrder), the stable sort by
  such a key and the max / min loop; then the loops of `max_by` / `min_by` / `sort_by` with the kind of key left open
  (`byLoop`, `keysOf`, of which the model's `byLoopNum` / `byLoopStr`, `keysNum` / `keysStr` are the two instances).
-/
import Jmes.Functions
import Proofs.Res
import Proofs.Value
namespace Jmes.FnMore
open Jmes.Val Jmes.Fn
variable {N : Type}

structure StrictOrdN (lt : N → N → Bool) : Prop where
  irrefl : ∀ a, lt a a = false
  trans : ∀ a b c, lt a b = true → lt b c = true → lt a c = true
  total : ∀ a b, lt a b = true ∨ a = b ∨ lt b a = true

theorem numLt_ord [NumOps N] [NumLaws N] : StrictOrdN (fun a b : N => NumOps.lt a b) :=
  ⟨NumLaws.lt_irrefl, NumLaws.lt_trans, NumLaws.lt_total⟩

variable {lt : N → N → Bool}

/-- What `min`, `min_by` compare by. -/
theorem StrictOrdN.flip (o : StrictOrdN lt) : StrictOrdN (fun a b => lt b a) :=
  ⟨o.irrefl, fun a b c h1 h2 => o.trans c b a h2 h1, fun a b => by
    rcases o.total a b with h | h | h
    · exact Or.inr (Or.inr h)
    · exact Or.inr (Or.inl h)
    · exact Or.inl h⟩

theorem StrictOrdN.asymm (o : StrictOrdN lt) {a b : N} (h : lt a b = true) : lt b a = false := by
  cases h' : lt b a
  · rfl
  · have := o.trans a b a h h'
    rw [o.irrefl] at this
    cases this

theorem StrictOrdN.not_lt_trans (o : StrictOrdN lt) {a b c : N} (h1 : lt b a = false) (h2 : lt c b = false) :
    lt c a = false := by
  cases hca : lt c a
  · rfl
  · rcases o.total a b with hab | rfl | hab
    · have := o.trans c a b hca hab
      rw [h2] at this
      cases this
    · rw [h2] at hca
      cases hca
    · rw [h1] at hab
      cases hab

/-- `sort.Stable` with `Less a b := key a < key b`, i.e. merge sort by `le a b := !(key b < key a)`: a permutation,
    ascending in the key, keeping every sublist that is already ascending. -/
theorem sort_by_key {α : Type} (o : StrictOrdN lt) (key : α → N) (xs : List α) :
    (xs.mergeSort fun a b => !lt (key b) (key a)).Perm xs ∧
    (xs.mergeSort fun a b => !lt (key b) (key a)).Pairwise (fun a b => lt (key b) (key a) = false) ∧
    ∀ ys : List α, ys.Pairwise (fun a b => (!lt (key b) (key a)) = true) → ys.Sublist xs →
      ys.Sublist (xs.mergeSort fun a b => !lt (key b) (key a)) :=
  have ht : ∀ a b c : α, (!lt (key b) (key a)) = true → (!lt (key c) (key b)) = true → (!lt (key c) (key a)) = true :=
    fun a b c h1 h2 => by simp only [Bool.not_eq_true'] at *; exact o.not_lt_trans h1 h2
  have htot : ∀ a b : α, (!lt (key b) (key a) || !lt (key a) (key b)) = true := fun a b => by
    cases h : lt (key b) (key a)
    · rfl
    · simp [o.asymm h]
  ⟨List.mergeSort_perm .., (List.pairwise_mergeSort ht htot xs).imp (by simp),
    fun _ hp hs => List.sublist_mergeSort ht htot hp hs⟩

/-- The loop `if best < x then x else best` of `max` / `min` (`maxNum`, `minNum`, `maxStr`, `minStr`) for an arbitrary
    comparison on any type. -/
def extLoopN (lt : N → N → Bool) : N → List N → N
  | best, [] => best
  | best, x :: xs => extLoopN lt (if lt best x then x else best) xs

theorem maxNum_eq_extLoopN [NumOps N] : ∀ (xs : List N) (best : N),
    maxNum best xs = extLoopN (fun a b => NumOps.lt a b) best xs
  | [], _ => rfl
  | x :: xs, best => maxNum_eq_extLoopN xs _

theorem minNum_eq_extLoopN [NumOps N] : ∀ (xs : List N) (best : N),
    minNum best xs = extLoopN (fun a b => NumOps.lt b a) best xs
  | [], _ => rfl
  | x :: xs, best => minNum_eq_extLoopN xs _

theorem maxStr_eq_extLoopN : ∀ (xs : List Bytes) (best : Bytes), maxStr best xs = extLoopN bytesLt best xs
  | [], _ => rfl
  | x :: xs, best => maxStr_eq_extLoopN xs _

theorem minStr_eq_extLoopN : ∀ (xs : List Bytes) (best : Bytes),
    minStr best xs = extLoopN (fun a b => bytesLt b a) best xs
  | [], _ => rfl
  | x :: xs, best => minStr_eq_extLoopN xs _

theorem extLoopN_mem (lt : N → N → Bool) : ∀ (best : N) (xs : List N), extLoopN lt best xs ∈ best :: xs
  | best, [] => List.mem_singleton.mpr rfl
  | best, x :: xs => by
    rcases List.mem_cons.mp (extLoopN_mem lt (if lt best x then x else best) xs) with e | e
    · show extLoopN lt (if lt best x then x else best) xs ∈ _
      rw [e]
      split
      · exact List.mem_cons_of_mem _ (List.mem_cons_self ..)
      · exact List.mem_cons_self ..
    · exact List.mem_cons_of_mem _ (List.mem_cons_of_mem _ e)

theorem extLoopN_ge (o : StrictOrdN lt) :
    ∀ (best : N) (xs : List N), lt (extLoopN lt best xs) best = false ∧
      ∀ x ∈ xs, lt (extLoopN lt best xs) x = false
  | best, [] => ⟨o.irrefl best, fun _ hx => nomatch hx⟩
  | best, y :: ys => by
    obtain ⟨ih1, ih2⟩ := extLoopN_ge o (if lt best y then y else best) ys
    have hb : lt (if lt best y then y else best) best = false ∧ lt (if lt best y then y else best) y = false := by
      split
      · exact ⟨o.asymm ‹_›, o.irrefl y⟩
      · exact ⟨o.irrefl best, Bool.eq_false_iff.mpr ‹_›⟩
    exact ⟨o.not_lt_trans hb.1 ih1, List.forall_mem_cons.mpr ⟨o.not_lt_trans hb.2 ih1, ih2⟩⟩

theorem extLoopN_extreme {lt : N → N → Bool} (o : StrictOrdN lt) (x : N) (xs : List N) :
    extLoopN lt x xs ∈ x :: xs ∧ ∀ y ∈ x :: xs, lt (extLoopN lt x xs) y = false :=
  ⟨extLoopN_mem lt x xs, List.forall_mem_cons.mpr (extLoopN_ge o x xs)⟩

theorem allNums_map_num : ∀ ns : List N, allNums (ns.map Val.num) = some ns
  | [] => rfl
  | n :: ns => congrArg (Option.map (n :: ·)) (allNums_map_num ns)

theorem allNums_eq_map : ∀ (xs : List (Val N)) (ns : List N), allNums xs = some ns → xs = ns.map .num
  | [], ns, h => by cases h; rfl
  | x :: xs, ns, h => by
    cases x with
    | num n =>
      obtain ⟨r, hr, rfl⟩ := Option.map_eq_some_iff.mp h
      exact congrArg (Val.num n :: ·) (allNums_eq_map xs r hr)
    | _ => cases h

theorem allNums_isSome_iff (xs : List (Val N)) : (allNums xs).isSome ↔ ∃ ns : List N, xs = ns.map .num := by
  rw [Option.isSome_iff_exists]
  exact ⟨fun ⟨ns, h⟩ => ⟨ns, allNums_eq_map xs ns h⟩, fun ⟨ns, h⟩ => ⟨ns, h ▸ allNums_map_num ns⟩⟩

theorem avgLoop_map_num [NumOps N] : ∀ (ns : List N) (acc : N),
    avgLoop acc (ns.map .num) = .ok (ns.foldl NumOps.add acc)
  | [], _ => rfl
  | n :: ns, acc => avgLoop_map_num ns (NumOps.add acc n)

/-- `contains` on strings decides `needle <:+: hay`. -/
theorem isInfix_iff_infix (needle : Bytes) : ∀ hay : Bytes, isInfix needle hay = true ↔ needle <:+: hay
  | [] => by simp only [isInfix, List.isEmpty_iff, List.infix_nil]
  | c :: rest => by
    simp only [isInfix, Bool.or_eq_true, isInfix_iff_infix needle rest, List.isPrefixOf_iff_prefix, List.infix_cons_iff]

theorem mergeLoop_absent (j : Bytes) : ∀ (objs : List (List (Bytes × Val N))) (acc : List (Bytes × Val N)) (r : Val N),
    Val.lookup j acc = none → (∀ o ∈ objs, Val.lookup j o = none) →
    mergeLoop acc (objs.map (fun o => .val (.obj o))) = .ok r → ∃ kvs, r = .obj kvs ∧ Val.lookup j kvs = none
  | [], acc, r, ha, _, h => by
    cases h
    exact ⟨acc, rfl, ha⟩
  | o :: objs, acc, r, ha, ho, h => by
    refine mergeLoop_absent j objs _ r ?_ (fun o' ho' => ho o' (by simp [ho'])) h  -- `h` is about the next turn, by computation
    rw [lookup_foldl_insert_or, lookup_reverse_eq_none j o (ho o (by simp)), ha]
    rfl

end Jmes.FnMore

namespace Jmes.Fn
open Jmes.FnMore
variable {N K : Type}

theorem mapLoop_eq (f : Val N → Res (Val N)) (xs : List (Val N)) : mapLoop f xs = Res.mapM' f xs := by
  induction xs with
  | nil => rfl
  | cons x xs ih =>
    conv => lhs; whnf  -- `simp only [mapLoop]` would have Lean prove the loop's unfolding equation first
    rw [ih, Res.mapM'_cons]
    cases f x with
    | ok v => cases Res.mapM' f xs <;> rfl
    | _ => rfl

def numOf : Val N → Option N
  | .num n => some n
  | _ => none

def strOf : Val N → Option Bytes
  | .str s => some s
  | _ => none

theorem numOf_eq_none {k : Val N} (hk : ∀ m, k ≠ .num m) : numOf k = none := by
  cases k with
  | num m => exact absurd rfl (hk m)
  | _ => rfl

theorem strOf_eq_none {k : Val N} (hk : ∀ s, k ≠ .str s) : strOf k = none := by
  cases k with
  | str s => exact absurd rfl (hk s)
  | _ => rfl

/-- `byLoopNum` / `byLoopStr` with the kind of key left open: `proj` reads the key off the value the
    expression returned, `bad` is the error for a value that has none. -/
def byLoop (proj : Val N → Option K) (bad : Err) (f : Val N → Res (Val N)) (better : K → K → Bool) :
    K → Val N → List (Val N) → Res (Val N)
  | _, bestItem, [] => .ok bestItem
  | bestVal, bestItem, item :: rest =>
    match f item with
    | .ok v =>
      (match proj v with
       | some cur =>
         if better cur bestVal then byLoop proj bad f better cur item rest
         else byLoop proj bad f better bestVal bestItem rest
       | none => .err bad)
    | .err e => .err e
    | .panic p => .panic p

theorem byLoopNum_eq (f : Val N → Res (Val N)) (better : N → N → Bool) : ∀ (xs : List (Val N)) (bv : N) (bi : Val N),
    byLoopNum f better bv bi xs = byLoop numOf (.other "invalid type, must be number") f better bv bi xs
  | [], _, _ => rfl
  | x :: xs, bv, bi => by
    conv => lhs; whnf
    rw [byLoop]
    cases f x with
    | ok v => cases v <;> simp only [numOf, byLoopNum_eq f better xs]
    | _ => rfl

theorem byLoopStr_eq (f : Val N → Res (Val N)) (better : Bytes → Bytes → Bool) :
    ∀ (xs : List (Val N)) (bv : Bytes) (bi : Val N),
    byLoopStr f better bv bi xs = byLoop strOf (.other "invalid type, must be string") f better bv bi xs
  | [], _, _ => rfl
  | x :: xs, bv, bi => by
    conv => lhs; whnf
    rw [byLoop]
    cases f x with
    | ok v => cases v <;> simp only [strOf, byLoopStr_eq f better xs]
    | _ => rfl

def keyOf (proj : Val N → Option K) : Res (Val N) → Option K
  | .ok v => proj v
  | _ => none

/-- `keysNum` / `keysStr` with the kind of key left open: every key is evaluated; a panic stops the
    collection, any other outcome without a key (the sorter's `hasError` latch) leaves no keys. -/
def keysOf (proj : Val N → Option K) (f : Val N → Res (Val N)) : List (Val N) → Res (Option (List (K × Val N)))
  | [] => .ok (some [])
  | x :: xs =>
    match f x with
    | .panic p => .panic p
    | r => keysOf proj f xs >>= fun o => .ok (match keyOf proj r, o with
        | some k, some ks => some ((k, x) :: ks)
        | _, _ => none)

theorem keysNum_eq (f : Val N → Res (Val N)) : ∀ xs, keysNum f xs = keysOf numOf f xs
  | [] => rfl
  | x :: xs => by
    conv => lhs; whnf
    simp only [keysOf, keysNum_eq f xs]
    rcases keysOf numOf f xs with (_ | ks) | e | p <;> cases f x with
    | ok v => cases v <;> rfl
    | _ => rfl

theorem keysStr_eq (f : Val N → Res (Val N)) : ∀ xs, keysStr f xs = keysOf strOf f xs
  | [] => rfl
  | x :: xs => by
    conv => lhs; whnf
    simp only [keysOf, keysStr_eq f xs]
    rcases keysOf strOf f xs with (_ | ks) | e | p <;> cases f x with
    | ok v => cases v <;> rfl
    | _ => rfl

theorem keysOf_cons (proj : Val N → Option K) (f : Val N → Res (Val N)) (x : Val N) (xs : List (Val N))
    (hx : ∀ p, f x ≠ .panic p) : keysOf proj f (x :: xs) = keysOf proj f xs >>= fun o =>
      .ok (match keyOf proj (f x), o with | some k, some ks => some ((k, x) :: ks) | _, _ => none) := by
  simp only [keysOf]  -- discharges the side condition of the catch-all equation, "`f x` is no panic", from `hx`

/-- Invariant of the max_by / min_by loop: the result is the current best unless a later element has a
    strictly better key; ties keep the earlier element. -/
theorem byLoop_first {lt : K → K → Bool} (o : StrictOrdN lt) {proj : Val N → Option K} {bad : Err}
    {f : Val N → Res (Val N)} (key : Val N → K) :
    ∀ {xs : List (Val N)} {bv : K} {bi r : Val N}, byLoop proj bad f (fun cur best => lt best cur) bv bi xs = .ok r →
    (∀ x ∈ xs, ∃ v, f x = .ok v ∧ proj v = some (key x)) →
    (r = bi ∧ ∀ x ∈ xs, lt bv (key x) = false) ∨
    (∃ pre post, xs = pre ++ r :: post ∧ lt bv (key r) = true ∧
      (∀ x ∈ pre, lt (key x) (key r) = true) ∧
      ∀ x ∈ post, lt (key r) (key x) = false)
  | [], bv, bi, r, h, _ => by
    cases h
    exact Or.inl ⟨rfl, fun _ hx => nomatch hx⟩
  | y :: ys, bv, bi, r, h, hf => by
    obtain ⟨v, hv, hp⟩ := hf y (List.mem_cons_self ..)
    simp only [byLoop, hv, hp] at h
    have hf' := fun x hx => hf x (List.mem_cons_of_mem _ hx)
    split at h
    · rename_i hb
      rcases byLoop_first o key h hf' with ⟨rfl, hall⟩ | ⟨pre, post, rfl, hlt, hpre, hpost⟩
      · exact Or.inr ⟨[], ys, rfl, hb, fun _ hx => (nomatch hx), hall⟩
      · exact Or.inr ⟨y :: pre, post, rfl, o.trans _ _ _ hb hlt, List.forall_mem_cons.mpr ⟨hlt, hpre⟩, hpost⟩
    · have hb : lt bv (key y) = false := Bool.eq_false_iff.mpr ‹_›
      rcases byLoop_first o key h hf' with ⟨rfl, hall⟩ | ⟨pre, post, rfl, hlt, hpre, hpost⟩
      · exact Or.inl ⟨rfl, List.forall_mem_cons.mpr ⟨hb, hall⟩⟩
      · refine Or.inr ⟨y :: pre, post, rfl, hlt, List.forall_mem_cons.mpr ⟨?_, hpre⟩, hpost⟩
        -- key y ≤ bv < key r
        rcases o.total bv (key y) with h1 | h1 | h1
        · rw [hb] at h1; cases h1
        · rw [← h1]; exact hlt
        · exact o.trans _ _ _ h1 hlt

theorem byLoop_first_split {lt : K → K → Bool} (o : StrictOrdN lt) {proj : Val N → Option K} {bad : Err}
    {f : Val N → Res (Val N)} (key : Val N → K) {x : Val N} {xs : List (Val N)} {r : Val N}
    (h : byLoop proj bad f (fun cur best => lt best cur) (key x) x xs = .ok r)
    (hf : ∀ y ∈ xs, ∃ v, f y = .ok v ∧ proj v = some (key y)) :
    ∃ pre post, x :: xs = pre ++ r :: post ∧ (∀ y ∈ pre, lt (key y) (key r) = true) ∧
      ∀ y ∈ post, lt (key r) (key y) = false := by
  rcases byLoop_first o key h hf with ⟨rfl, hall⟩ | ⟨pre, post, rfl, hlt, hpre, hpost⟩
  · exact ⟨[], xs, rfl, fun _ hy => (nomatch hy), hall⟩
  · exact ⟨x :: pre, post, rfl, List.forall_mem_cons.mpr ⟨hlt, hpre⟩, hpost⟩

end Jmes.Fn
