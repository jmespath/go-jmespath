/-
  Proofs.ParserSafe — the Pratt parser is safe on every token list the lexer
  can produce: the cursor is never read out of range (no panic), the fuel given
  by `parseTokens` always suffices (termination), every syntax error carries
  the position of a token of the expression (0 ≤ offset ≤ len), and every AST
  it returns has 64-bit slice literals.
  The only fact needed about the binding-power table is that tEOF has power 0.
  With `R_sound`, a derivation of a whole token list is then what `parseTokens`
  returns (`parseTokens_ok_of_R`).
-/
import Proofs.ParserRel
import Proofs.Lexer
import Proofs.EvalSafe
namespace Jmes.Parser
variable {N : Type} [NumOps N]
open Jmes.Interp (slicesOK slicesOKList slicesOKKVs slicesOKArgs optOK)

def eofTok (total : Nat) : Token := ⟨.eof, [], total⟩

structure WF (total : Nat) (p : PState) : Prop where
  shape : ∃ pre, p.after = pre ++ [eofTok total] ∧ ∀ t ∈ pre, t.ty ≠ .eof
  posA : ∀ t ∈ p.after, t.pos ≤ total
  posB : ∀ t ∈ p.before, t.pos ≤ total

def ROK {α} (total : Nat) (Q : α → Prop) : Res α → Prop
  | .ok a => Q a
  | .err (.syntax off) => 0 ≤ off ∧ off ≤ (total : Int)
  | .err (.other _) => True
  | .panic _ => False

section
variable {α : Type} {total : Nat} {Q : α → Prop} {r : Res α}

theorem ROK.bind {β} {Q' : β → Prop} {k : α → Res β}
    (hr : ROK total Q r) (hk : ∀ a, Q a → ROK total Q' (k a)) : ROK total Q' (r >>= k) := by
  cases r with
  | ok a => exact hk a hr
  | err e => cases e <;> exact hr
  | panic s => exact hr.elim

theorem ROK.mono {Q' : α → Prop} (hr : ROK total Q r) (h : ∀ a, Q a → Q' a) :
    ROK total Q' r := by
  cases r with
  | ok a => exact h a hr
  | err e => cases e <;> exact hr
  | panic s => exact hr.elim

theorem ROK.isPanic (h : ROK total Q r) : r.isPanic = false := by
  cases r with
  | panic s => exact h.elim
  | _ => rfl

theorem ROK.syntaxAt {pos : Nat} (h : pos ≤ total) : ROK total Q (.err (.syntax pos) : Res α) :=
  ⟨by omega, by omega⟩

end

theorem advance_length_lt {p : PState} {t rest} (ht : p.after = t :: rest) :
    p.advance.after.length < p.after.length ∧ p.before.length < p.advance.before.length := by
  rw [advance_of_cons ht, ht]
  exact ⟨Nat.lt_succ_self _, Nat.lt_succ_self _⟩

section
variable {total : Nat} {p : PState} (h : WF total p)
include h

theorem WF.ne_nil : ∃ t rest, p.after = t :: rest := by
  obtain ⟨pre, hp, _⟩ := h.shape
  cases pre with
  | nil => exact ⟨_, [], hp⟩
  | cons t r => exact ⟨t, r ++ [eofTok total], by simp [hp]⟩

theorem WF.cur : ∃ t rest, p.after = t :: rest ∧ t.pos ≤ total := by
  obtain ⟨t, rest, ht⟩ := h.ne_nil
  exact ⟨t, rest, ht, h.posA t (by simp [ht])⟩

theorem WF.lt_of_le_sub_one {n : Nat} (hn : n ≤ p.after.length - 1) : n < p.after.length := by
  obtain ⟨t, rest, ht⟩ := h.ne_nil
  exact Nat.lt_of_le_sub_one (by rw [ht]; exact Nat.zero_lt_succ _) hn

theorem WF.syntaxError {α} {Q : α → Prop} : ROK total Q (p.syntaxError : Res α) := by
  obtain ⟨t, rest, ht, hpos⟩ := h.cur
  simp only [PState.syntaxError, ht]
  exact .syntaxAt hpos

theorem WF.step {t rest} (ht : p.after = t :: rest) (hne : t.ty ≠ .eof) :
    WF total p.advance ∧ p.advance.after.length < p.after.length ∧ p.before.length < p.advance.before.length := by
  obtain ⟨pre, hp, hpre⟩ := h.shape
  refine ⟨?_, advance_length_lt ht⟩
  rw [advance_of_cons ht]
  refine ⟨?_, fun x hx => h.posA x (by simp [ht, hx]), fun x hx => ?_⟩
  · rw [ht] at hp
    cases pre with
    | nil => cases hp; exact absurd rfl hne
    | cons u us => cases hp; exact ⟨us, rfl, fun x hx => hpre x (List.mem_cons_of_mem _ hx)⟩
  · rcases List.mem_cons.mp hx with rfl | hx'
    · exact h.posA _ (by simp [ht])
    · exact h.posB x hx'

theorem WF.look1 {t rest} (ht : p.after = t :: rest) (hne : t.ty ≠ .eof) :
    ∃ u rest', rest = u :: rest' ∧ p.look1 = .ok u.ty := by
  obtain ⟨u, rest', hu⟩ := (h.step ht hne).1.ne_nil
  rw [advance_after_cons ht] at hu
  exact ⟨u, rest', hu, look1_cons ht hu⟩

theorem WF.expect (ty : TokType) {β} {Q : β → Prop} {k : PState → Res β}
    (hk : ∀ p', WF total p' → p'.after.length < p.after.length → p.before.length < p'.before.length → ROK total Q (k p'))
    (hty : ty ≠ .eof := by decide) :
    ROK total Q (p.expect ty >>= k) := by
  obtain ⟨t, rest, ht, hpos⟩ := h.cur
  simp only [PState.expect, ht]
  split
  · rename_i heq
    obtain ⟨hw, ha, hb⟩ := h.step ht (heq ▸ hty)
    exact hk _ hw ha hb
  · exact .syntaxAt hpos

end

theorem atoi_inRange {s : Bytes} {n : Int} (h : atoi s = some n) : Slice.InRange n := by
  unfold atoi at h
  obtain ⟨w, _, hw⟩ := Option.bind_eq_some_iff.mp h
  unfold clampInt64 at hw
  split at hw
  · rename_i hr
    cases hw
    unfold Slice.InRange; unfold minInt64 maxInt64 at hr
    omega
  · exact absurd hw (by simp)

theorem optOK_none : optOK none := by intro x hx; cases hx

theorem optOK_getD {parts : List (Option Int)} (h : ∀ v ∈ parts, optOK v) (i : Nat) : optOK (parts.getD i none) := by
  rw [List.getD_eq_getElem?_getD]
  cases hg : parts[i]? with
  | none => exact optOK_none
  | some v => exact h v (List.mem_of_getElem? hg)

def Cursor (total : Nat) (p : PState) (n : Nat) (p' : PState) : Prop :=
  WF total p' ∧ p'.after.length ≤ n ∧ p.before.length ≤ p'.before.length

theorem Cursor.weaken {total : Nat} {p q p' : PState} {n m : Nat} (h : Cursor total q n p') (hn : n ≤ m)
    (hb : p.before.length ≤ q.before.length) : Cursor total p m p' :=
  ⟨h.1, Nat.le_trans h.2.1 hn, Nat.le_trans hb h.2.2⟩

theorem sliceLoop_ok (total : Nat) : ∀ (fuel : Nat) (parts : List (Option Int)) (idx : Nat) (p : PState),
    WF total p → p.after.length < fuel → (∀ v ∈ parts, optOK v) →
    ROK total (fun r => Cursor total p p.after.length r.2 ∧ ∀ v ∈ r.1, optOK v) (sliceLoop fuel parts idx p)
  | 0, _, _, _, _, hf, _ => (Nat.not_lt_zero _ hf).elim
  | fuel + 1, parts, idx, p, hw, hf, hp => by
    obtain ⟨t, rest, ht⟩ := hw.ne_nil
    have next : ∀ parts' idx', t.ty ≠ .eof → (∀ v ∈ parts', optOK v) →
        ROK total (fun r => Cursor total p p.after.length r.2 ∧ ∀ v ∈ r.1, optOK v) (sliceLoop fuel parts' idx' p.advance) := by
      intro parts' idx' hne hp'
      obtain ⟨hw', ha, hb⟩ := hw.step ht hne
      exact ROK.mono (sliceLoop_ok total fuel parts' idx' p.advance hw' (Nat.lt_of_lt_of_le ha (Nat.le_of_lt_succ hf)) hp') fun r hr =>
        ⟨hr.1.weaken (Nat.le_of_lt ha) (Nat.le_of_lt hb), hr.2⟩
    simp only [sliceLoop, cur_cons ht, curTok_cons ht, bind_ok_rw]
    refine iteInduction (fun _ => ?_) fun _ => ⟨⟨hw, Nat.le_refl _, Nat.le_refl _⟩, hp⟩
    refine iteInduction (fun hcolon => iteInduction (fun _ => hw.syntaxError) fun _ => next parts (idx + 1) (ne_eof hcolon) hp) fun _ => ?_
    refine iteInduction (fun hnum => iteInduction (fun _ => hw.syntaxError) fun _ => ?_) fun _ => hw.syntaxError
    cases hat : atoi t.value with
    | none => trivial
    | some n =>
      refine next (parts.set idx (some n)) idx (ne_eof hnum) fun v hv => ?_
      rcases List.mem_or_eq_of_mem_set hv with h | h
      · exact hp v h
      · exact h ▸ fun _ hx => Option.some.inj hx ▸ atoi_inRange hat

def Post (total : Nat) (p : PState) (n : Nat) (r : Node N × PState) : Prop :=
  Cursor total p n r.2 ∧ slicesOK r.1

section
omit [NumOps N]
variable {total : Nat} {p : PState}

theorem Post.intro {p' : PState} {n : Nat} {e : Node N} (hw : WF total p') (ha : p'.after.length ≤ n)
    (hb : p.before.length ≤ p'.before.length) (he : slicesOK e) : Post total p n (e, p') :=
  ⟨⟨hw, ha, hb⟩, he⟩

theorem Post.refl {e : Node N} (hw : WF total p) (he : slicesOK e) : Post total p p.after.length (e, p) :=
  .intro hw (Nat.le_refl _) (Nat.le_refl _) he

theorem parseSliceExpression_ok (hw : WF total p) :
    ROK total (Post total p (p.after.length - 1)) (parseSliceExpression (N := N) p) := by
  unfold parseSliceExpression
  have hparts : ∀ v ∈ [(none : Option Int), none, none], optOK v := by
    intro v hv; simp at hv; subst hv; exact optOK_none
  refine ROK.bind (sliceLoop_ok total _ _ 0 p hw (Nat.lt_succ_self _) hparts) ?_
  rintro ⟨parts, p1⟩ ⟨⟨h1, h2, h3⟩, h4⟩
  refine h1.expect .rbracket fun p2 g1 g2 g3 => ?_
  exact Post.intro g1 (Nat.le_sub_one_of_lt (Nat.lt_of_lt_of_le g2 h2)) (Nat.le_trans h3 (Nat.le_of_lt g3))
    ⟨optOK_getD h4 0, optOK_getD h4 1, optOK_getD h4 2⟩

theorem parseIndexExpression_ok (hw : WF total p) {t rest} (ht : p.after = t :: rest)
    (hty : t.ty = .number ∨ t.ty = .colon) :
    ROK total (Post total p (p.after.length - 1)) (parseIndexExpression (N := N) p) := by
  have hne : t.ty ≠ .eof := hty.elim (ne_eof ·) (ne_eof ·)
  obtain ⟨u, rest', hu, hl1⟩ := hw.look1 ht hne
  simp only [parseIndexExpression, cur_cons ht, curTok_cons ht, hl1, bind_ok_rw]
  -- either way the test for a slice goes, what follows is safe
  refine ROK.bind (Q := fun _ => True) (iteInduction (fun _ => trivial) fun _ => trivial) fun isSlice _ => ?_
  refine iteInduction (fun _ => parseSliceExpression_ok hw) fun _ => ?_
  cases hat : atoi t.value with
  | none => trivial
  | some n =>
    obtain ⟨hw', ha, hb⟩ := hw.step ht hne
    refine hw'.expect .rbracket fun p2 g1 g2 g3 => ?_
    exact Post.intro g1 (Nat.le_sub_one_of_lt (Nat.lt_trans g2 ha)) (Nat.le_of_lt (Nat.lt_trans hb g3)) trivial

end

section claims
variable (N) (tbl : ParserTable) (total : Nat)

def ClaimExpr (fuel : Nat) : Prop := ∀ (rbp : Nat) (p : PState), WF total p → 8 * p.after.length ≤ fuel →
  ROK total (Post (N := N) total p (p.after.length - 1)) (parseExpression tbl fuel rbp p)
def ClaimLoop (fuel : Nat) : Prop := ∀ (rbp : Nat) (left : Node N) (p : PState), WF total p → slicesOK left →
  1 ≤ p.before.length → 8 * p.after.length + 5 ≤ fuel →
  ROK total (Post total p p.after.length) (ledLoop tbl fuel rbp left p)
def ClaimNud (fuel : Nat) : Prop := ∀ (token : Token) (p : PState), token.pos ≤ total → (token.ty ≠ .eof → WF total p) →
  8 * p.after.length + 4 ≤ fuel → ROK total (Post (N := N) total p p.after.length) (nud tbl fuel token p)
def ClaimLed (fuel : Nat) : Prop := ∀ (ty : TokType) (node : Node N) (p : PState), WF total p → slicesOK node →
  2 ≤ p.before.length → 8 * p.after.length + 4 ≤ fuel → ROK total (Post total p p.after.length) (led tbl fuel ty node p)
def ClaimArgs (fuel : Nat) : Prop := ∀ (p : PState), WF total p → 8 * p.after.length + 1 ≤ fuel →
  ROK total (fun r => Cursor total p (p.after.length - 1) r.2 ∧ slicesOKArgs r.1) (parseArgs (N := N) tbl fuel p)
def ClaimPIS (fuel : Nat) : Prop := ∀ (left right : Node N) (p : PState), WF total p → slicesOK left → slicesOK right →
  8 * p.after.length + 3 ≤ fuel → ROK total (Post total p p.after.length) (projectIfSlice tbl fuel left right p)
def ClaimFilter (fuel : Nat) : Prop := ∀ (node : Node N) (p : PState), WF total p → slicesOK node →
  8 * p.after.length + 1 ≤ fuel → ROK total (Post total p p.after.length) (parseFilter tbl fuel node p)
def ClaimDot (fuel : Nat) : Prop := ∀ (bp : Nat) (p : PState), WF total p → 8 * p.after.length + 1 ≤ fuel →
  ROK total (Post (N := N) total p p.after.length) (parseDotRHS tbl fuel bp p)
def ClaimProj (fuel : Nat) : Prop := ∀ (bp : Nat) (p : PState), WF total p → 8 * p.after.length + 2 ≤ fuel →
  ROK total (Post (N := N) total p p.after.length) (parseProjectionRHS tbl fuel bp p)
def ClaimMSL (fuel : Nat) : Prop := ∀ (p : PState) (acc : List (Node N)), WF total p → slicesOKList acc →
  8 * p.after.length + 1 ≤ fuel → ROK total (Post total p p.after.length) (parseMultiSelectList tbl fuel p acc)
def ClaimMSH (fuel : Nat) : Prop := ∀ (p : PState) (acc : List (Bytes × Node N)), WF total p → slicesOKKVs acc →
  8 * p.after.length + 1 ≤ fuel → ROK total (Post total p p.after.length) (parseMultiSelectHash tbl fuel p acc)

structure AllClaims (fuel : Nat) : Prop where
  expr : ClaimExpr N tbl total fuel
  loop : ClaimLoop N tbl total fuel
  nud : ClaimNud N tbl total fuel
  led : ClaimLed N tbl total fuel
  args : ClaimArgs N tbl total fuel
  pis : ClaimPIS N tbl total fuel
  filter : ClaimFilter N tbl total fuel
  dot : ClaimDot N tbl total fuel
  proj : ClaimProj N tbl total fuel
  msl : ClaimMSL N tbl total fuel
  msh : ClaimMSH N tbl total fuel

end claims

section
omit [NumOps N]
variable {total n m : Nat} {p q : PState} {r : Res (Node N × PState)}

theorem ROK.weaken (h : ROK total (Post total q n) r)
    (hn : n ≤ m) (hb : p.before.length ≤ q.before.length) : ROK total (Post total p m) r :=
  ROK.mono h fun _ hr => ⟨hr.1.weaken hn hb, hr.2⟩

theorem ROK.wrap (h : ROK total (Post total q n) r)
    {mk : Node N → Node N} (hmk : ∀ e, slicesOK e → slicesOK (mk e)) (hn : n ≤ m) (hb : p.before.length ≤ q.before.length) :
    ROK total (Post total p m) (r >>= fun x => .ok (mk x.1, x.2)) :=
  ROK.bind h fun _ hr => ⟨hr.1.weaken hn hb, hmk _ hr.2⟩

theorem ROK.bind_post {β} {Q' : β → Prop} {k : Node N × PState → Res β}
    (hr : ROK total (Post total q n) r)
    (hk : ∀ e p', WF total p' → p'.after.length ≤ n → q.before.length ≤ p'.before.length → slicesOK e → ROK total Q' (k (e, p'))) :
    ROK total Q' (r >>= k) :=
  hr.bind fun (e, p') h => hk e p' h.1.1 h.1.2.1 h.1.2.2 h.2

theorem slicesOKList_reverse {xs : List (Node N)} (h : slicesOKList xs) : slicesOKList xs.reverse :=
  Interp.slicesOKList_iff.mpr fun x hx => Interp.slicesOKList_iff.mp h x (List.mem_reverse.mp hx)

theorem slicesOKKVs_reverse {xs : List (Bytes × Node N)} (h : slicesOKKVs xs) : slicesOKKVs xs.reverse :=
  Interp.slicesOKKVs_iff.mpr fun x hx => Interp.slicesOKKVs_iff.mp h x (List.mem_reverse.mp hx)

end

variable {tbl : ParserTable} {total : Nat}

/-! Between two tokens at most eight calls are nested, hence the bounds `8 * remaining tokens + k` with a `k < 8` for each
    function: a call at the same cursor takes a smaller `k` (`fuel_here`), a call further on any `k` (`fuel_next`). -/

theorem fuel_here {a k k' fuel : Nat} (hf : 8 * a + k ≤ fuel + 1) (hk : k' < k := by decide) : 8 * a + k' ≤ fuel := by omega

theorem fuel_next {a a' k k' fuel : Nat} (hf : 8 * a + k ≤ fuel + 1) (ha : a' < a) (hk : k' < 8 := by decide) :
    8 * a' + k' ≤ fuel := by omega

theorem all_claims_succ (hT : tbl.power .eof = 0) {fuel : Nat} (ih : AllClaims N tbl total fuel) : AllClaims N tbl total (fuel + 1) where
  expr rbp p hw hf := by
    obtain ⟨t, rest, ht, hpos⟩ := hw.cur
    simp only [parseExpression, curTok_cons ht, bind_ok_rw]
    -- `t` may be `eof` (`nud` reports that), so `WF.step` does not apply yet; the lengths change all the same
    have hlen := advance_length_lt ht
    refine (ih.nud t p.advance hpos (fun hne => (hw.step ht hne).1) (fuel_next (k := 0) hf hlen.1)).bind_post fun left p1 h1 h2 h3 hl => ?_
    have ha := Nat.lt_of_le_of_lt h2 hlen.1
    have hb := Nat.lt_of_lt_of_le hlen.2 h3
    exact (ih.loop rbp left p1 h1 hl (Nat.zero_lt_of_lt hb) (fuel_next (k := 0) hf ha)).weaken (Nat.le_sub_one_of_lt ha) (Nat.le_of_lt hb)
  loop rbp left p hw hl hb1 hf := by
    obtain ⟨t, rest, ht⟩ := hw.ne_nil
    simp only [ledLoop, cur_cons ht, bind_ok_rw]
    refine iteInduction (fun hlt => ?_) fun _ => Post.refl hw hl
    -- the one use of `hT`: a token the loop goes on with has a positive power, so it is not `eof`
    obtain ⟨hw', ha, hb⟩ := hw.step ht (fun h => by rw [h, hT] at hlt; exact Nat.not_lt_zero _ hlt)
    refine (ih.led t.ty left p.advance hw' hl (Nat.lt_of_le_of_lt hb1 hb) (fuel_next hf ha)).bind_post fun left' p1 h1 h2 h3 hl' => ?_
    have ha' := Nat.lt_of_le_of_lt h2 ha
    have hb' := Nat.lt_of_lt_of_le hb h3
    exact (ih.loop rbp left' p1 h1 hl' (Nat.zero_lt_of_lt hb') (fuel_next hf ha')).weaken (Nat.le_of_lt ha') (Nat.le_of_lt hb')
  nud token p hpos hwf hf := by
    by_cases heof : token.ty = .eof
    · simp only [nud, heof]
      exact .syntaxAt hpos
    have hw := hwf heof
    obtain ⟨t, rest, ht⟩ := hw.ne_nil
    simp only [nud]
    split
    · -- jsonLiteral
      split
      · trivial
      · exact Post.refl hw trivial
    · -- stringLiteral
      exact Post.refl hw trivial
    · -- uident
      exact Post.refl hw trivial
    · -- qident
      simp only [cur_cons ht, bind_ok_rw]
      exact iteInduction (fun _ => .syntaxAt hpos) fun _ => Post.refl hw trivial
    · -- star
      simp only [cur_cons ht, bind_ok_rw]
      exact iteInduction (fun _ => Post.refl hw ⟨trivial, trivial⟩) fun _ =>
        (ih.proj tbl.nudStar p hw (fuel_here hf)).wrap (fun _ h => ⟨trivial, h⟩) (Nat.le_refl _) (Nat.le_refl _)
    · -- filter
      exact ih.filter .identity p hw trivial (fuel_here hf)
    · -- lbrace
      exact ih.msh p [] hw trivial (fuel_here hf)
    · -- flatten
      exact (ih.proj tbl.nudFlatten p hw (fuel_here hf)).wrap (fun _ h => ⟨trivial, h⟩) (Nat.le_refl _) (Nat.le_refl _)
    · -- lbracket
      simp only [cur_cons ht, bind_ok_rw]
      refine iteInduction (fun hty => ?_) fun _ => ?_
      · refine (parseIndexExpression_ok hw ht hty).bind_post fun right p1 h1 h2 h3 hr => ?_
        have ha := hw.lt_of_le_sub_one h2
        exact (ih.pis .identity right p1 h1 trivial hr (fuel_next hf ha)).weaken (Nat.le_of_lt ha) h3
      · by_cases hstar : t.ty = .star
        · have hne : t.ty ≠ .eof := ne_eof hstar
          obtain ⟨u, rest', hu, hl1⟩ := hw.look1 ht hne
          simp only [hstar, if_true, hl1, bind_ok_rw]
          by_cases hrb : u.ty = .rbracket
          · simp only [hrb, decide_true, if_true]
            obtain ⟨hw1, ha1, hb1⟩ := hw.step ht hne
            obtain ⟨hw2, ha2, hb2⟩ := hw1.step (by rw [advance_after_cons ht, hu]) (ne_eof hrb)
            have ha := Nat.lt_trans ha2 ha1
            exact (ih.proj tbl.nudBracketStar p.advance.advance hw2 (fuel_next hf ha)).wrap (fun _ h => ⟨trivial, h⟩)
              (Nat.le_of_lt ha) (Nat.le_of_lt (Nat.lt_trans hb1 hb2))
          · simp only [hrb, decide_false, Bool.false_eq_true, if_false]
            exact ih.msl p [] hw trivial (fuel_here hf)
        · simp only [hstar, if_false, bind_ok_rw, Bool.false_eq_true]
          exact ih.msl p [] hw trivial (fuel_here hf)
    · -- current
      exact Post.refl hw trivial
    · -- not
      exact (ih.expr tbl.nudNot p hw (fuel_here (k' := 0) hf)).wrap (fun _ h => h) (Nat.sub_le _ _) (Nat.le_refl _)
    · -- lparen
      refine (ih.expr tbl.nudParen p hw (fuel_here (k' := 0) hf)).bind_post fun e p1 h1 h2 h3 he => ?_
      refine h1.expect .rparen fun p2 g1 g2 g3 => ?_
      exact Post.intro g1 (Nat.le_of_lt (Nat.lt_trans g2 (hw.lt_of_le_sub_one h2))) (Nat.le_trans h3 (Nat.le_of_lt g3)) he
    · -- any other token
      exact .syntaxAt hpos
  led ty node p hw hn hb2 hf := by
    obtain ⟨t, rest, ht⟩ := hw.ne_nil
    have bin : ∀ bp {mk : Node N → Node N}, (∀ e, slicesOK e → slicesOK (mk e)) →
        ROK total (Post total p p.after.length) (parseExpression tbl fuel bp p >>= fun x => .ok (mk x.1, x.2)) :=
      fun bp _ hmk => (ih.expr bp p hw (fuel_here (k' := 0) hf)).wrap hmk (Nat.sub_le _ _) (Nat.le_refl _)
    unfold led
    split
    · -- dot
      simp only [cur_cons ht, bind_ok_rw]
      refine iteInduction (fun _ => (ih.dot tbl.ledDotSub p hw (fuel_here hf)).wrap (fun _ h => ⟨hn, h⟩) (Nat.le_refl _) (Nat.le_refl _))
        fun hstar => ?_
      obtain ⟨hw', ha, hb⟩ := hw.step ht (ne_eof (Decidable.of_not_not hstar))
      exact (ih.proj tbl.ledDotStar p.advance hw' (fuel_next hf ha)).wrap (fun _ h => ⟨hn, h⟩) (Nat.le_of_lt ha) (Nat.le_of_lt hb)
    · -- pipe
      exact bin tbl.ledPipe fun _ h => ⟨hn, h⟩
    · -- or
      exact bin tbl.ledOr fun _ h => ⟨hn, h⟩
    · -- and
      exact bin tbl.ledAnd fun _ h => ⟨hn, h⟩
    · -- lparen: only an unquoted identifier can be called; anything else is a syntax error at the `(`
      match hbf : p.before, hb2 with
      | lp :: prev :: more, _ =>
        have hlp : lp.pos ≤ total := hw.posB lp (by rw [hbf]; simp)
        cases node with
        | field name =>
          dsimp only  -- the `match node, p.before` of `led` reduces to its first alternative
          refine iteInduction (fun _ => ?_) fun _ => .syntaxAt hlp
          simp only [cur_cons ht, bind_ok_rw]
          refine ROK.bind (Q := fun (r : List (Bool × Node N) × PState) => Cursor total p p.after.length r.2 ∧ slicesOKArgs r.1) ?_ ?_
          · exact iteInduction (fun _ => ⟨⟨hw, Nat.le_refl _, Nat.le_refl _⟩, trivial⟩) fun _ =>
              ROK.mono (ih.args p hw (fuel_here hf)) (fun r hr => ⟨hr.1.weaken (Nat.sub_le _ _) (Nat.le_refl _), hr.2⟩)
          · rintro ⟨args, p1⟩ ⟨⟨h1, h2, h3⟩, hargs⟩
            refine h1.expect .rparen fun p2 g1 g2 g3 => ?_
            exact Post.intro g1 (Nat.le_trans (Nat.le_of_lt g2) h2) (Nat.le_trans h3 (Nat.le_of_lt g3)) hargs
        | _ => exact .syntaxAt hlp
      | [], h => simp at h
      | [_], h => simp at h
    · -- filter
      exact ih.filter node p hw hn (fuel_here hf)
    · -- flatten
      exact (ih.proj tbl.ledFlatten p hw (fuel_here hf)).wrap (fun _ h => ⟨hn, h⟩) (Nat.le_refl _) (Nat.le_refl _)
    · -- lbracket
      simp only [cur_cons ht, bind_ok_rw]
      refine iteInduction (fun hty => ?_) fun _ => ?_
      · refine (parseIndexExpression_ok hw ht hty).bind_post fun right p1 h1 h2 h3 hr => ?_
        have ha := hw.lt_of_le_sub_one h2
        exact (ih.pis node right p1 h1 hn hr (fuel_next hf ha)).weaken (Nat.le_of_lt ha) h3
      · refine hw.expect .star fun p1 g1 g2 g3 => ?_
        refine g1.expect .rbracket fun p2 k1 k2 k3 => ?_
        have ha := Nat.lt_trans k2 g2
        exact (ih.proj tbl.ledBracketStar p2 k1 (fuel_next hf ha)).wrap (fun _ h => ⟨hn, h⟩) (Nat.le_of_lt ha) (Nat.le_of_lt (Nat.lt_trans g3 k3))
    · -- a comparator, or any other token
      split
      · exact bin _ fun _ h => ⟨hn, h⟩
      · exact hw.syntaxError
  args p hw hf := by
    obtain ⟨t, rest, ht⟩ := hw.ne_nil
    simp only [parseArgs, cur_cons ht, bind_ok_rw]
    refine ROK.bind (Q := fun (r : (Bool × Node N) × PState) => Cursor total p (p.after.length - 1) r.2 ∧ slicesOK r.1.2) ?_ ?_
    · refine iteInduction (fun _ => ROK.bind (ih.expr tbl.ledArg p hw (fuel_here (k' := 0) hf)) fun _ hr => hr) fun hex => ?_
      obtain ⟨hw', ha, hb⟩ := hw.step ht (ne_eof (Decidable.of_not_not hex))
      exact ROK.bind (ih.expr tbl.ledArgExpref p.advance hw' (fuel_next (k' := 0) hf ha)) fun _ hr =>
        ⟨hr.1.weaken (Nat.sub_le_sub_right (Nat.le_of_lt ha) 1) (Nat.le_of_lt hb), hr.2⟩
    rintro ⟨arg, p1⟩ ⟨⟨h1, h2, h3⟩, ha⟩
    obtain ⟨u, rest1, hu⟩ := h1.ne_nil
    simp only [cur_cons hu, bind_ok_rw]
    refine iteInduction (fun _ => ⟨⟨h1, h2, h3⟩, ⟨ha, trivial⟩⟩) fun _ => ?_
    refine h1.expect .comma fun p2 g1 g2 g3 => ?_
    obtain ⟨w, rest2, hw2⟩ := g1.ne_nil
    simp only [cur_cons hw2, bind_ok_rw]
    refine iteInduction (fun _ => g1.syntaxError) fun _ => ?_
    have ha2 := Nat.lt_trans g2 (hw.lt_of_le_sub_one h2)
    exact ROK.bind (ih.args p2 g1 (fuel_next hf ha2)) fun _ hr =>
      ⟨hr.1.weaken (Nat.sub_le_sub_right (Nat.le_of_lt ha2) 1) (Nat.le_trans h3 (Nat.le_of_lt g3)), ha, hr.2⟩
  pis left right p hw hl hr hf := by
    simp only [projectIfSlice]
    exact iteInduction (fun _ => (ih.proj tbl.sliceProj p hw (fuel_here hf)).wrap (fun _ h => ⟨⟨hl, hr⟩, h⟩) (Nat.le_refl _) (Nat.le_refl _))
      fun _ => Post.refl hw ⟨hl, hr⟩
  filter node p hw hn hf := by
    simp only [parseFilter]
    refine (ih.expr tbl.filterCond p hw (fuel_here (k' := 0) hf)).bind_post fun cond p1 h1 h2 h3 hc => ?_
    refine h1.expect .rbracket fun p2 g1 g2 g3 => ?_
    have ha := Nat.lt_trans g2 (hw.lt_of_le_sub_one h2)
    have hb := Nat.le_trans h3 (Nat.le_of_lt g3)
    obtain ⟨t, rest, ht⟩ := g1.ne_nil
    simp only [cur_cons ht, bind_ok_rw]
    exact iteInduction (fun _ => Post.intro g1 (Nat.le_of_lt ha) hb ⟨hn, trivial, hc⟩) fun _ =>
      (ih.proj tbl.filterRhs p2 g1 (fuel_next hf ha)).wrap (mk := fun r => .filterProj node r cond) (fun _ h => ⟨hn, h, hc⟩) (Nat.le_of_lt ha) hb
  dot bp p hw hf := by
    obtain ⟨t, rest, ht⟩ := hw.ne_nil
    simp only [parseDotRHS, cur_cons ht, bind_ok_rw]
    refine iteInduction (fun _ => (ih.expr bp p hw (fuel_here (k' := 0) hf)).weaken (Nat.sub_le _ _) (Nat.le_refl _)) fun _ => ?_
    refine iteInduction (fun hlb => ?_) fun _ => iteInduction (fun hbr => ?_) fun _ => hw.syntaxError
    · obtain ⟨hw', ha, hb⟩ := hw.step ht (ne_eof hlb)
      exact (ih.msl p.advance [] hw' trivial (fuel_next hf ha)).weaken (Nat.le_of_lt ha) (Nat.le_of_lt hb)
    · obtain ⟨hw', ha, hb⟩ := hw.step ht (ne_eof hbr)
      exact (ih.msh p.advance [] hw' trivial (fuel_next hf ha)).weaken (Nat.le_of_lt ha) (Nat.le_of_lt hb)
  proj bp p hw hf := by
    obtain ⟨t, rest, ht⟩ := hw.ne_nil
    simp only [parseProjectionRHS, cur_cons ht, bind_ok_rw]
    refine iteInduction (fun _ => Post.refl hw trivial) fun _ => ?_
    refine iteInduction (fun _ => (ih.expr bp p hw (fuel_here (k' := 0) hf)).weaken (Nat.sub_le _ _) (Nat.le_refl _)) fun _ => ?_
    refine iteInduction (fun _ => (ih.expr bp p hw (fuel_here (k' := 0) hf)).weaken (Nat.sub_le _ _) (Nat.le_refl _)) fun _ => ?_
    refine iteInduction (fun hdot => ?_) fun _ => hw.syntaxError
    obtain ⟨hw', ha, hb⟩ := hw.step ht (ne_eof hdot)
    exact (ih.dot bp p.advance hw' (fuel_next hf ha)).weaken (Nat.le_of_lt ha) (Nat.le_of_lt hb)
  msl p acc hw hacc hf := by
    simp only [parseMultiSelectList]
    refine (ih.expr tbl.msList p hw (fuel_here (k' := 0) hf)).bind_post fun e p1 h1 h2 h3 he => ?_
    have ha := hw.lt_of_le_sub_one h2
    obtain ⟨t, rest, ht⟩ := h1.ne_nil
    simp only [cur_cons ht, bind_ok_rw]
    refine iteInduction (fun _ => ?_) fun _ => ?_
    · refine h1.expect .rbracket fun p2 g1 g2 g3 => ?_
      exact Post.intro g1 (Nat.le_of_lt (Nat.lt_trans g2 ha)) (Nat.le_trans h3 (Nat.le_of_lt g3)) (slicesOKList_reverse ⟨he, hacc⟩)
    · refine h1.expect .comma fun p2 g1 g2 g3 => ?_
      have ha2 := Nat.lt_trans g2 ha
      exact (ih.msl p2 (e :: acc) g1 ⟨he, hacc⟩ (fuel_next hf ha2)).weaken (Nat.le_of_lt ha2) (Nat.le_trans h3 (Nat.le_of_lt g3))
  msh p acc hw hacc hf := by
    obtain ⟨t, rest, ht⟩ := hw.ne_nil
    simp only [parseMultiSelectHash, curTok_cons ht, bind_ok_rw]
    refine iteInduction (fun hkey => ?_) fun _ => hw.syntaxError
    obtain ⟨hw', ha, hb⟩ := hw.step ht (hkey.elim (ne_eof ·) (ne_eof ·))
    refine hw'.expect .colon fun p2 g1 g2 g3 => ?_
    have ha2 := Nat.lt_trans g2 ha
    refine (ih.expr tbl.msHash p2 g1 (fuel_next (k' := 0) hf ha2)).bind_post fun v p3 k1 k2 k3 hv => ?_
    have ha3 := Nat.lt_of_le_of_lt (Nat.le_trans k2 (Nat.sub_le _ _)) ha2
    have hb3 := Nat.lt_of_lt_of_le (Nat.lt_trans hb g3) k3
    obtain ⟨u, rest3, hu⟩ := k1.ne_nil
    simp only [cur_cons hu, bind_ok_rw]
    refine iteInduction (fun hcomma => ?_) fun _ => iteInduction (fun hrb => ?_) fun _ => k1.syntaxError
    · obtain ⟨hw4, ha4, hb4⟩ := k1.step hu (ne_eof hcomma)
      have ha' := Nat.lt_trans ha4 ha3
      exact (ih.msh p3.advance ((t.value, v) :: acc) hw4 ⟨hv, hacc⟩ (fuel_next hf ha')).weaken (Nat.le_of_lt ha')
        (Nat.le_of_lt (Nat.lt_trans hb3 hb4))
    · obtain ⟨hw4, ha4, hb4⟩ := k1.step hu (ne_eof hrb)
      exact Post.intro hw4 (Nat.le_of_lt (Nat.lt_trans ha4 ha3)) (Nat.le_of_lt (Nat.lt_trans hb3 hb4)) (slicesOKKVs_reverse ⟨hv, hacc⟩)

theorem all_claims (hT : tbl.power .eof = 0) : ∀ fuel : Nat, AllClaims N tbl total fuel
  | 0 => by
    -- every bound `8 * remaining + k ≤ 0` with `k ≥ 1` is absurd; `expr` has `k = 0`, and a well-formed cursor has a token left
    constructor
    · intro rbp p hw hf
      obtain ⟨t, rest, ht⟩ := hw.ne_nil
      simp [ht] at hf
    · intro rbp left p hw _ _ hf; exact (Nat.not_succ_le_zero _ hf).elim
    · intro token p _ _ hf; exact (Nat.not_succ_le_zero _ hf).elim
    · intro ty node p hw _ _ hf; exact (Nat.not_succ_le_zero _ hf).elim
    · intro p hw hf; exact (Nat.not_succ_le_zero _ hf).elim
    · intro l r p hw _ _ hf; exact (Nat.not_succ_le_zero _ hf).elim
    · intro node p hw _ hf; exact (Nat.not_succ_le_zero _ hf).elim
    · intro bp p hw hf; exact (Nat.not_succ_le_zero _ hf).elim
    · intro bp p hw hf; exact (Nat.not_succ_le_zero _ hf).elim
    · intro p acc hw _ hf; exact (Nat.not_succ_le_zero _ hf).elim
    · intro p acc hw _ hf; exact (Nat.not_succ_le_zero _ hf).elim
  | fuel + 1 => all_claims_succ hT (all_claims hT fuel)

/-- `(*Parser).Parse` after lexing, on every token list of the shape the lexer produces. -/
theorem parseTokens_ok (hT : tbl.power .eof = 0) (toks : List Token) (h : Lexer.TokensOK total toks) :
    ROK total (fun e => slicesOK e) (parseTokens (N := N) tbl toks) := by
  have hw : WF total ⟨[], toks⟩ := ⟨h.1, h.2, fun _ ht => absurd ht List.not_mem_nil⟩
  simp only [parseTokens]
  refine ((all_claims hT _).expr tbl.top ⟨[], toks⟩ hw (by simp [fuelFor])).bind_post fun e p h1 _ _ he => ?_
  obtain ⟨t, rest, ht⟩ := h1.ne_nil
  simp only [cur_cons ht, bind_ok_rw]
  exact iteInduction (fun _ => h1.syntaxError) fun _ => he

/-- `Compile` on arbitrary bytes. -/
theorem parseWith_ok (lt : Lexer.Tables) (hlt : Lexer.TablesSafe lt) (hT : tbl.power .eof = 0) (expr : Bytes) :
    ROK expr.length (fun e => slicesOK e) (parseWith (N := N) lt tbl expr) := by
  have hl := Lexer.tokenize_ok lt hlt expr
  simp only [parseWith]
  cases htk : Lexer.tokenize lt expr with
  | ok toks => rw [htk] at hl; exact parseTokens_ok hT toks hl
  | err e => rw [htk] at hl; cases e <;> exact hl
  | panic s => rw [htk] at hl; exact hl.elim

/-- `R_sound` leaves "or out of fuel", and the fuel `parseTokens` gives always suffices (`parseTokens_ok`). -/
theorem parseTokens_ok_of_R (hT : tbl.power .eof = 0) {toks : List Token} {ast : Node N} {p1 : PState}
    (hR : R tbl (.expr tbl.top ⟨[], toks⟩) (.node ast p1)) (hp1 : ∃ t rest, p1.after = t :: rest ∧ t.ty = .eof)
    (htoks : Lexer.TokensOK total toks) : parseTokens tbl toks = .ok ast := by
  have hok := parseTokens_ok (N := N) hT _ htoks
  obtain ⟨t, rest, hafter, hty⟩ := hp1
  simp only [parseTokens] at hok ⊢
  rcases OrOof.ofN (R_sound tbl hR (fuelFor toks.length)) with h | h
  · simp only [h, bind_ok_rw, cur_cons hafter, hty, ne_eq, not_true_eq_false, if_false]
  · rw [h] at hok
    exact hok.elim

end Jmes.Parser
