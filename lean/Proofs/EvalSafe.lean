/-
  Proofs.EvalSafe — `Execute` never panics: for every AST whose slice
  literals are 64-bit integers (which is what the parser produces) and every
  document, provided `CallFunction` with the table in use never panics on
  arguments whose expression references are safe (proved for the
  specification's table in Proofs.FunctionsSafe).
-/
import Proofs.EvalEq
import Proofs.Slice
import Proofs.FunctionsSafe
namespace Jmes.Interp
variable {N : Type}
open Jmes.Slice (InRange)

def optOK (v : Option Int) : Prop := ∀ x, v = some x → InRange x

mutual
/-- All slice literals inside the AST are 64-bit integers. -/
def slicesOK : Node N → Prop
  | .slice a b c => optOK a ∧ optOK b ∧ optOK c
  | .cmp _ l r | .indexExpr l r | .or l r | .and l r | .pipe l r | .proj l r | .sub l r | .valueProj l r =>
    slicesOK l ∧ slicesOK r
  | .filterProj l r c => slicesOK l ∧ slicesOK r ∧ slicesOK c
  | .flatten e | .not e => slicesOK e
  | .call _ args => slicesOKArgs args
  | .msHash kvs => slicesOKKVs kvs
  | .msList xs => slicesOKList xs
  | _ => True
def slicesOKList : List (Node N) → Prop
  | [] => True
  | x :: xs => slicesOK x ∧ slicesOKList xs
def slicesOKKVs : List (Bytes × Node N) → Prop
  | [] => True
  | (_, x) :: xs => slicesOK x ∧ slicesOKKVs xs
def slicesOKArgs : List (Bool × Node N) → Prop
  | [] => True
  | (_, x) :: xs => slicesOK x ∧ slicesOKArgs xs
end

theorem slicesOKList_iff : ∀ {xs : List (Node N)}, slicesOKList xs ↔ ∀ x ∈ xs, slicesOK x
  | [] => iff_of_true trivial nofun
  | x :: xs => Iff.symm (List.forall_mem_cons.trans (and_congr_right' slicesOKList_iff.symm))

theorem slicesOKKVs_iff : ∀ {xs : List (Bytes × Node N)}, slicesOKKVs xs ↔ ∀ kv ∈ xs, slicesOK kv.2
  | [] => iff_of_true trivial nofun
  | (_, x) :: xs => Iff.symm (List.forall_mem_cons.trans (and_congr_right' slicesOKKVs_iff.symm))

/-- What is assumed of the function table: calls never panic when the
    expression references among the arguments never do. -/
def TableSafe (N : Type) [NumOps N] (ft : List FnEntry) : Prop :=
  ∀ (name : Bytes) (args : List (Fn.Arg N)), Fn.RefsSafe args → (Fn.callFunction ft name args).isPanic = false

theorem np_of_eq_ok {α} {r : Res α} {a : α} (h : r = .ok a) : r.isPanic = false := by rw [h]; rfl

theorem not_panic_cases {α} (r : Res α) (h : r.isPanic = false) : (∃ a, r = .ok a) ∨ (∃ e, r = .err e) := by
  cases r with
  | ok a => exact Or.inl ⟨a, rfl⟩
  | err e => exact Or.inr ⟨e, rfl⟩
  | panic p => cases h

theorem projectLoop_np {f : Val N → Res (Val N)} (hf : ∀ v, (f v).isPanic = false) (xs : List (Val N)) :
    (projectLoop f xs).isPanic = false := by
  rw [projectLoop_eq]
  exact Res.isPanic_bind (Res.isPanic_mapM' fun x _ => hf x) fun _ _ => rfl

theorem filterLoop_np {c r : Val N → Res (Val N)} (hc : ∀ v, (c v).isPanic = false) (hr : ∀ v, (r v).isPanic = false)
    (xs : List (Val N)) : (filterLoop c r xs).isPanic = false := by
  rw [filterLoop_eq_projectLoop]
  refine projectLoop_np (fun v => Res.isPanic_bind (hc v) fun cv _ => ?_) xs
  split
  · rfl
  · exact hr v

theorem projectOver_np {elems : Val N → Option (List (Val N))} {loop : List (Val N) → Res (List (Val N))}
    (h : ∀ xs, (loop xs).isPanic = false) (v : Val N) : (projectOver elems loop v).isPanic = false := by
  unfold projectOver
  split
  · exact Res.isPanic_bind (h _) fun _ _ => rfl
  · rfl

variable [NumOps N] (ft : List FnEntry) (hft : TableSafe N ft)
include hft

mutual
theorem eval_np : ∀ (n : Node N), slicesOK n → ∀ d, (eval ft n d).isPanic = false
  -- the match is on the node alone: with all three arguments as patterns Lean compiles a far larger case analysis
  | .empty | .current | .identity | .literal _ => fun _ _ => rfl
  | .cmp op l r => fun h d => by
    rw [eval_cmp]
    exact Res.isPanic_bind (eval_np l h.1 d) fun _ _ => Res.isPanic_bind (eval_np r h.2 d) fun _ _ => rfl
  | .call name args => fun h d => by
    have ha := evalArgs_np args h d
    rw [eval_call]
    exact Res.isPanic_bind ha.1 fun as e => hft name as (ha.2 as e)
  | .field name => fun _ d => by rw [eval_field]; rfl
  | .filterProj l r c => fun h d => by
    rw [eval_filterProj]
    exact Res.isPanic_bind (eval_np l h.1 d) fun v _ =>
      projectOver_np (filterLoop_np (eval_np c h.2.2) (eval_np r h.2.1)) v
  | .flatten e => fun h d => by
    rw [eval_flatten]
    exact Res.isPanic_bind (eval_np e h d) fun _ _ => rfl
  | .index i => fun _ d => by rw [eval_index]; rfl
  | .msHash kvs => fun h d => by
    rw [eval_msHash]
    split
    · rfl
    · exact Res.isPanic_bind (evalKVs_np kvs h d) fun _ _ => rfl
  | .msList xs => fun h d => by
    rw [eval_msList]
    split
    · rfl
    · exact Res.isPanic_bind (evalList_np xs h d) fun _ _ => rfl
  | .or l r => fun h d => by
    rw [eval_or]
    refine Res.isPanic_bind (eval_np l h.1 d) fun m _ => ?_
    split
    · exact eval_np r h.2 d
    · rfl
  | .and l r => fun h d => by
    rw [eval_and]
    refine Res.isPanic_bind (eval_np l h.1 d) fun m _ => ?_
    split
    · rfl
    · exact eval_np r h.2 d
  | .not e => fun h d => by
    rw [eval_not]
    exact Res.isPanic_bind (eval_np e h d) fun _ _ => rfl
  | .pipe l r | .sub l r | .indexExpr l r => fun h d => by
    simp only [eval_pipe, eval_sub, eval_indexExpr]
    exact Res.isPanic_bind (eval_np l h.1 d) fun v _ => eval_np r h.2 v
  | .proj l r | .valueProj l r => fun h d => by
    simp only [eval_proj, eval_valueProj]
    exact Res.isPanic_bind (eval_np l h.1 d) fun v _ => projectOver_np (projectLoop_np (eval_np r h.2)) v
  | .slice a b c => fun h d => by
    rw [eval_slice]
    exact projectOver_np (fun xs => Slice.slice_np xs a b c h.1 h.2.1) d
theorem evalList_np : ∀ (xs : List (Node N)), slicesOKList xs → ∀ d, (evalList ft xs d).isPanic = false
  | [] => fun _ _ => rfl
  | x :: xs => fun h d => by
    rw [evalList_cons]
    exact Res.isPanic_bind (eval_np x h.1 d) fun _ _ => Res.isPanic_bind (evalList_np xs h.2 d) fun _ _ => rfl
theorem evalKVs_np : ∀ (xs : List (Bytes × Node N)), slicesOKKVs xs → ∀ d, (evalKVs ft xs d).isPanic = false
  | [] => fun _ _ => rfl
  | (k, x) :: xs => fun h d => by
    rw [evalKVs_cons]
    exact Res.isPanic_bind (eval_np x h.1 d) fun _ _ => Res.isPanic_bind (evalKVs_np xs h.2 d) fun _ _ => rfl
theorem evalArgs_np : ∀ (args : List (Bool × Node N)), slicesOKArgs args → ∀ d,
    (evalArgs ft args d).isPanic = false ∧ ∀ as, evalArgs ft args d = .ok as → Fn.RefsSafe as
  | [] => fun _ _ => ⟨rfl, by intro as h; cases h; exact .nil⟩
  | (true, x) :: xs => fun h d => by
    have ih := evalArgs_np xs h.2 d
    rw [evalArgs_cons_ref]
    refine ⟨Res.isPanic_bind ih.1 fun _ _ => rfl, fun as has => ?_⟩
    obtain ⟨ws, hws, has⟩ := Res.bind_eq_ok.mp has
    cases has
    exact .cons_ref (eval_np x h.1) (ih.2 ws hws)
  | (false, x) :: xs => fun h d => by
    have ih := evalArgs_np xs h.2 d
    rw [evalArgs_cons_val]
    refine ⟨Res.isPanic_bind (eval_np x h.1 d) fun _ _ => Res.isPanic_bind ih.1 fun _ _ => rfl, fun as has => ?_⟩
    obtain ⟨v, _, has⟩ := Res.bind_eq_ok.mp has
    obtain ⟨ws, hws, has⟩ := Res.bind_eq_ok.mp has
    cases has
    exact .cons_val v (ih.2 ws hws)
end

end Jmes.Interp
