/-
  Proofs.Compose — consequences of context independence (Proofs/Context.lean) for ARBITRARY expressions:
  an expression that parses on its own is read the same way, to the same AST, wherever the parser
  reads an expression at level 0 up to a closing token or separator (inside parentheses, as a member
  of a multi-select list or hash, as a function argument, as a filter condition); in particular
  putting parentheses around a whole expression does not change its AST.
-/
import Proofs.PipeCompose
namespace Jmes.Parser
variable {N : Type} [NumOps N]

theorem expr0_in_context {As : List Token} {eA : Token} {a : Node N} (heA : eA.ty = .eof)
    (hPA : R T (.expr 0 ⟨[], As ++ [eA]⟩) (.node a ⟨As.reverse, [eA]⟩))
    (bef : List Token) (f : Token) (rest : List Token) (hf : followerOK f.ty = true) (hpow : specPow f.ty = 0) :
    R T (.expr 0 ⟨bef, As ++ f :: rest⟩) (.node a ⟨As.reverse ++ bef, f :: rest⟩) :=
  expr0_resume heA hPA bef f rest hf (R.stop rfl (by rw [T_power, hpow]; omega))

theorem paren_of_parse {As : List Token} {eA eB l r : Token} {a : Node N} (heA : eA.ty = .eof) (heB : eB.ty = .eof)
    (hl : l.ty = .lparen) (hr : r.ty = .rparen)
    (hPA : R T (.expr 0 ⟨[], As ++ [eA]⟩) (.node a ⟨As.reverse, [eA]⟩)) :
    R T (.expr 0 ⟨[], l :: (As ++ [r, eB])⟩) (.node a ⟨(l :: (As ++ [r])).reverse, [eB]⟩) := by
  have h1 := expr0_in_context heA hPA [l] r [eB] (by rw [hr]; rfl) (by rw [hr]; rfl)
  have := R.expr (p := ⟨[], l :: (As ++ [r, eB])⟩) (rbp := 0) rfl (R.nudParen hl h1 rfl hr)
    (R.stop rfl (by rw [T_power, heB]; decide))
  simpa [List.reverse_append, PState.advance] using this

end Jmes.Parser
