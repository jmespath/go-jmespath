/-
  Proofs.Context — a successful parse of a phrase does not depend on what stands to its left, and
  depends on what follows it only through the power of the next token: if `expr k` reads exactly the
  phrase when an end-of-input token follows, it reads exactly the phrase — and builds the same AST —
  when a token follows whose power does not exceed `k` (here: one that `followerOK` admits — end of input,
  a pipe, a closing token or a comma).

  Behind "`A | B` is the composition of `A` and `B`" for arbitrary expressions (Props/C15): inside `A | B`
  every loop left open at the end of `A` runs at a level ≥ 1, except the outermost, which goes on with the pipe.

  `CRel` relates a state in the old surroundings to the one in the new; it satisfies `Sim`
  (Proofs/Sim.lean), and `R_moves` is that instance of `R_sim`.
-/
import Proofs.Sim
namespace Jmes.Parser
variable {N : Type} [NumOps N]

/-- where a phrase stands: the consumed tokens before it, the token after it, the rest -/
structure Around where
  b0 : List Token
  e : Token
  rest : List Token

def CRel (A B : Around) (n : Nat) (p p' : PState) : Prop :=
  ∃ Y X, n ≤ Y.length ∧ p.before = Y ++ A.b0 ∧ p'.before = Y ++ B.b0 ∧ p.after = X ++ A.e :: A.rest ∧ p'.after = X ++ B.e :: B.rest

section
variable {A B : Around} (hA : A.e.ty = .eof) (hB : followerOK B.e.ty = true)

theorem CRel.mono {n m : Nat} {p p' : PState} (h : CRel A B n p p') (hm : m ≤ n) : CRel A B m p p' := by
  obtain ⟨Y, X, hn, h1, h2, h3, h4⟩ := h
  exact ⟨Y, X, by omega, h1, h2, h3, h4⟩

section
variable {n : Nat} {p p' : PState} (h : CRel A B n p p')
include h

include hA in
theorem CRel.cons {t : Token} {r : List Token} (ha : p.after = t :: r) (ht : t.ty ≠ .eof) :
    ∃ r', p'.after = t :: r' ∧ CRel A B (n + 1) p.advance p'.advance := by
  obtain ⟨Y, X, hn, h1, h2, h3, h4⟩ := h
  rw [ha] at h3
  cases X with
  | nil => cases h3; exact absurd hA ht
  | cons x X' =>
    cases h3
    exact ⟨_, h4, t :: Y, X', Nat.succ_le_succ hn, by rw [advance_of_cons ha, h1]; rfl, by rw [advance_of_cons h4, h2]; rfl,
      advance_after_cons ha, advance_after_cons h4⟩

theorem CRel.peek {t : Token} {r : List Token} (ha : p.after = t :: r) :
    ∃ t' r', p'.after = t' :: r' ∧ (t' = t ∨ (p.after = A.e :: A.rest ∧ t = A.e ∧ t' = B.e)) := by
  obtain ⟨Y, X, hn, h1, h2, h3, h4⟩ := h
  rw [ha] at h3
  cases X with
  | nil => cases h3; exact ⟨B.e, B.rest, h4, Or.inr ⟨ha, rfl, rfl⟩⟩
  | cons x X' => cases h3; exact ⟨t, X' ++ B.e :: B.rest, h4, Or.inl rfl⟩

theorem CRel.before2 (hn : 2 ≤ n) {a b : Token} {more : List Token} (hb : p.before = a :: b :: more) :
    ∃ more', p'.before = a :: b :: more' := by
  obtain ⟨Y, X, hn', h1, h2, h3, h4⟩ := h
  match Y, hn' with
  | y1 :: y2 :: Y2, _ =>
    rw [h1] at hb; cases hb
    exact ⟨Y2 ++ B.b0, h2⟩
  | [], h0 => simp at h0; omega
  | [_], h0 => simp at h0; omega

end

theorem CRel.start (As : List Token) (eA : Token) (bef : List Token) (f : Token) (rest : List Token) :
    CRel ⟨[], eA, []⟩ ⟨bef, f, rest⟩ 0 ⟨[], As ++ [eA]⟩ ⟨bef, As ++ f :: rest⟩ :=
  ⟨[], As, Nat.le_refl _, rfl, rfl, rfl, rfl⟩

theorem CRel.at_end {n : Nat} {p p' : PState} (h : CRel A B n p p') (hb : A.b0 = []) (he : p.after = A.e :: A.rest) :
    p' = ⟨p.before ++ B.b0, B.e :: B.rest⟩ := by
  obtain ⟨Y, X, _, h1, h2, h3, h4⟩ := h
  rw [he] at h3
  obtain rfl : X = [] := List.self_eq_append_left.mp h3
  rw [hb, List.append_nil] at h1
  cases p'
  simp only [PState.mk.injEq]
  exact ⟨h1 ▸ h2, h4⟩

include hA in
/-- a stretch of tokens none of which is the end-of-input token lies inside the phrase -/
theorem CRel.stretch : ∀ (S : List Token) {n : Nat} {p p' : PState} (Z : List Token), CRel A B n p p' → p.after = S ++ Z →
    (∀ t ∈ S, t.ty ≠ .eof) →
    ∃ Z', p'.after = S ++ Z' ∧ CRel A B n ⟨S.reverse ++ p.before, Z⟩ ⟨S.reverse ++ p'.before, Z'⟩
  | [], n, p, p', Z, h, hs, _ => by
    cases hs
    exact ⟨p'.after, rfl, h⟩
  | s :: S', n, p, p', Z, h, hs, hne => by
    obtain ⟨r', ha', hadv⟩ := h.cons hA hs (hne s (List.mem_cons_self ..))
    obtain ⟨Z', hz, hrel⟩ := CRel.stretch S' Z hadv (advance_after_cons hs) (fun t ht => hne t (List.mem_cons_of_mem _ ht))
    rw [advance_after_cons ha'] at hz
    refine ⟨Z', by rw [ha', hz]; rfl, ?_⟩
    rw [advance_of_cons hs, advance_of_cons ha'] at hrel
    simpa [List.reverse_cons, List.append_assoc] using hrel.mono (Nat.le_succ n)

/-- a Pratt loop that stops exactly at the end of the phrase must also stop in front of the new follower -/
def Side (A B : Around) (c : Call N) (o : Out N) : Prop :=
  match c with
  | .expr k _ | .loop k _ _ | .dot k _ | .prhs k _ => specPow B.e.ty ≤ k ∨ o.state.after ≠ A.e :: A.rest
  | _ => True

def Moves (A B : Around) (c : Call N) (o : Out N) : Prop :=
  ∀ (n : Nat) (p' : PState), need c ≤ n → CRel A B n c.state p' → Side A B c o →
    ∃ p1', CRel A B n o.state p1' ∧ R T (c.retarget c.tok p') (o.setState p1')

theorem nud_not_eof {tok : Token} {p : PState} {o : Out N} (h : R T (.nud tok p) o) : tok.ty ≠ .eof := nud_ne_eof h

include hB in
/-- end of input, `,`, `)`, `]`, `}` have power 0, the pipe has power 1 -/
theorem powB_le : specPow B.e.ty ≤ 1 := by
  revert hB; cases B.e.ty <;> decide

theorem pow_pos_ne_eof {t : Token} {k : Nat} (h : k < specPow t.ty) : t.ty ≠ .eof := by
  intro e; rw [e] at h; exact Nat.not_lt_zero k h

include hA hB in
theorem sim_CRel :
    Sim N T (CRel A B) (fun k p => specPow B.e.ty ≤ k ∨ p.after ≠ A.e :: A.rest) 1 where
  mono h hm := h.mono hm
  adv h ha ht := by obtain ⟨r', ha', hadv⟩ := h.cons hA ha ht; exact ⟨_, r', ha', TokRel.refl _, hadv⟩
  peek h ha := by
    obtain ⟨t', r', ha', hpk⟩ := h.peek ha
    refine ⟨t', r', ha', ?_⟩
    have hpw := powB_le hB
    rcases hpk with rfl | ⟨hend, rfl, rfl⟩
    · exact Or.inl (TokRel.refl _)
    · refine Or.inr ⟨hA, hB, by rw [T_power]; exact Nat.lt_of_le_of_lt hpw (by decide), fun k hk => ?_⟩
      rcases hk with hk | hne
      · rw [T_power]; omega
      · exact absurd hend hne
  before2 h hn hb := by obtain ⟨more', hb'⟩ := h.before2 hn hb; exact ⟨_, _, more', hb', TokRel.refl _⟩
  halt_level hk := Or.inl (Nat.le_trans (powB_le hB) hk)
  halt_inner ha ht := Or.inr fun e => by rw [ha] at e; cases e; exact ht hA
  -- every level at which `T` reads an operand that nothing closes is at least 1, the power of the pipe
  levels := {
    nudNot := by decide, ledDotSub := by decide, ledPipe := by decide, ledOr := by decide, ledAnd := by decide
    ledCmp := fun hop => by rw [cmp_level hop]; decide
    nudStar := by decide, nudFlatten := by decide, nudBracketStar := by decide, ledDotStar := by decide
    ledFlatten := by decide, ledBracketStar := by decide, sliceProj := by decide, filterRhs := by decide }

include hA hB in
/-- **Context independence**: a derivation moves from surroundings `A` (end of input after the phrase)
    to surroundings `B` (a token that `followerOK` admits after it; anything before it), with the same AST.
    (`hAr` is not needed.) -/
theorem R_moves (hAr : A.rest = []) {c : Call N} {o : Out N} (h : R T c o) : Moves A B c o :=
  fun n p' hn hrel hside => R_sim (sim_CRel hA hB) h n c.tok p' hn hrel (TokRel.refl _) hside

end
end Jmes.Parser
