/-
  Proofs.WellTyped — `resolveArgs` (the recursive check of functions.go)
  decides exactly the position-wise, index-based statement of well-typedness.
-/
import Proofs.Functions
namespace Jmes.Fn
variable {N : Type}

/-- A call is well-typed for a signature: right number of arguments, and the
    i-th argument has one of the types declared for position i, positions past
    the declared ones being checked against the variadic (last) parameter. -/
def WellTyped (sig : List ArgSpec) (args : List (Arg N)) : Prop :=
  match sig.getLast? with
  | none => True
  | some last =>
    (if last.variadic then sig.length ≤ args.length else sig.length = args.length) ∧
    ∀ i (hi : i < args.length), typeCheck (sig.getD i last) args[i] = true

theorem forall_lt_cons {α} {a : α} {as : List α} {Q : Nat → α → Prop} :
    (∀ i (hi : i < (a :: as).length), Q i (a :: as)[i]) ↔ Q 0 a ∧ ∀ i (hi : i < as.length), Q (i + 1) as[i] :=
  ⟨fun h => ⟨h 0 (Nat.zero_lt_succ _), fun i hi => h (i + 1) (Nat.succ_lt_succ hi)⟩,
   fun h i hi => match i with
    | 0 => h.1
    | i + 1 => h.2 i (Nat.lt_of_succ_lt_succ hi)⟩

theorem checkVariadic_iff (last : ArgSpec) : ∀ (l : List ArgSpec) (args : List (Arg N)),
    checkVariadic last l args = true ↔ ∀ i (hi : i < args.length), typeCheck (l.getD i last) args[i] = true
  | l, [] => by cases l <;> exact iff_of_true rfl nofun
  | [], a :: as => by
    simp only [checkVariadic_nil_cons, Bool.and_eq_true, checkVariadic_iff last [] as]
    exact (forall_lt_cons (Q := fun i x => typeCheck (([] : List ArgSpec).getD i last) x = true)).symm
  | s :: l, a :: as => by
    simp only [checkVariadic_cons, Bool.and_eq_true, checkVariadic_iff last l as]
    exact (forall_lt_cons (Q := fun i x => typeCheck ((s :: l).getD i last) x = true)).symm

/-- `last` is only the default of `getD`, which is read in range: the statement holds for every `last`. -/
theorem checkFixed_iff (last : ArgSpec) : ∀ (l : List ArgSpec) (args : List (Arg N)),
    checkFixed l args = true ↔ l.length = args.length ∧ ∀ i (hi : i < args.length), typeCheck (l.getD i last) args[i] = true
  | [], [] => iff_of_true rfl ⟨rfl, fun _ hi => nomatch hi⟩
  | [], _ :: _ | _ :: _, [] => iff_of_false nofun fun h => nomatch h.1
  | s :: l, a :: as => by
    simp only [checkFixed_cons, Bool.and_eq_true, checkFixed_iff last l as]
    rw [forall_lt_cons (Q := fun i x => typeCheck ((s :: l).getD i last) x = true), List.length_cons, List.length_cons,
      Nat.add_right_cancel_iff]
    exact and_left_comm

/-- On every other call it is an error, never a panic: `resolveArgs_ok_or_err`. -/
theorem resolveArgs_ok_iff {e : FnEntry} {args : List (Arg N)} :
    resolveArgs e args = .ok () ↔ WellTyped e.args args := by
  unfold WellTyped
  cases hl : e.args.getLast? with
  | none => simp [resolveArgs, hl]
  | some last =>
    cases hv : last.variadic
    · simp only [resolveArgs_fixed hl hv, checkFixed_iff last, hv, Bool.false_eq_true, if_false]
    · simp only [resolveArgs_variadic hl hv, checkVariadic_iff, hv, if_true]

end Jmes.Fn
