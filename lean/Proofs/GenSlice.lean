/-
  Proofs.GenSlice — the regenerated translation of util.go's slice arithmetic
  (Jmes/GeneratedSlice.lean, written by tools/gotolean from /repo's source on every run)
  computes what the hand-written model Jmes/Slice.lean computes.  These are the proof
  obligations that move C08's theorems from the model to the code as written; they are
  proved by case analysis + linear arithmetic, so a behaviour-preserving rewrite of the Go
  functions keeps them and a change of behaviour loses them.
-/
import Jmes.GeneratedSlice
import Proofs.Slice
namespace Jmes
open Jmes.Slice

/-- The three-element parameter list interpreter.go builds from the AST's `[]*int`. -/
def GenSlice.param (v : Option Int) : GenSlice.SliceParam :=
  match v with
  | none => { N := 0, Specified := false }
  | some n => { N := n, Specified := true }

/-- What `computeSliceParams` of the hand-written model returns, in the shape of the Go results. -/
def GenSlice.expected (length : Int) (a b c : Option Int) : Except String (List Int) :=
  match Slice.computeSliceParams length a b c with
  | none => .error "Invalid slice, step cannot be 0"
  | some (start, stop, step) => .ok [start, stop, step]

/-- On the domain the code runs on: `length` is the `len` of a Go slice, `actual` comes from `strconv.Atoi`. -/
theorem gen_capSlice_eq {length actual step : Int} (hl0 : 0 ≤ length) (hl : InRange length) (ha : InRange actual) :
    GenSlice.capSlice length actual step = Slice.capSlice length actual step := by
  obtain ⟨_, _⟩ := hl
  obtain ⟨_, _⟩ := ha
  unfold GenSlice.capSlice Slice.capSlice wrap64
  simp only [decide_eq_true_eq]
  repeat' split
  all_goals omega

section
attribute [local simp] GenSlice.computeSliceParams GenSlice.expected GenSlice.param Slice.computeSliceParams Slice.stepOf
  Except.toOption

/-- Error texts are not compared. -/
theorem gen_computeSliceParams_eq (length : Int) (a b c : Option Int) (hl0 : 0 ≤ length) (hl : InRange length)
    (ha : ∀ x, a = some x → InRange x) (hb : ∀ x, b = some x → InRange x) :
    (GenSlice.computeSliceParams length [GenSlice.param a, GenSlice.param b, GenSlice.param c]).toOption
      = (GenSlice.expected length a b c).toOption := by
  have h1 : ¬ ((1 : Int) < 0) := by omega
  have hw : wrap64 (length - 1) = length - 1 := wrap64_id (by have := hl.2; omega)
  cases c with
  | none => cases a <;> cases b <;> simp [gen_capSlice_eq, h1, hl0, hl, ha, hb]
  | some v =>
    by_cases h0 : v = 0
    · subst h0
      cases a <;> cases b <;> simp
    · by_cases hn : v < 0 <;> cases a <;> cases b <;> simp [gen_capSlice_eq, h0, hn, hl0, hl, ha, hb, hw]

end

/- Which alternative of the outer `first` is the proof depends on what tools/gotolean emitted: today the translated Go
   loops (`loopsTranslated = true`), so the induction; the model's own loops when it cannot read the source's, so `rfl`.
   Inside the induction both sides are the same term today (`rfl`); the case analysis is for a loop body written
   differently.  `start` only mirrors the Go signature. -/

theorem gen_loop1_eq {α} {xs : List α} {start stop step : Int} :
    ∀ (fuel : Nat) (i : Int), GenSlice.sliceLoop1 xs start stop step fuel i = Slice.loopUp xs stop step fuel i := by
  first
  | (intro fuel i; rfl)
  | (intro fuel
     induction fuel with
     | zero => intro i; simp [GenSlice.sliceLoop1, Slice.loopUp]
     | succ n ih =>
       intro i
       simp only [GenSlice.sliceLoop1, Slice.loopUp, ih, decide_eq_true_eq]
       first
         | rfl
         | (repeat' split) <;> simp_all <;> omega)

theorem gen_loop2_eq {α} {xs : List α} {start stop step : Int} :
    ∀ (fuel : Nat) (i : Int), GenSlice.sliceLoop2 xs start stop step fuel i = Slice.loopDown xs stop step fuel i := by
  first
  | (intro fuel i; rfl)
  | (intro fuel
     induction fuel with
     | zero => intro i; simp [GenSlice.sliceLoop2, Slice.loopDown]
     | succ n ih =>
       intro i
       simp only [GenSlice.sliceLoop2, Slice.loopDown, ih, decide_eq_true_eq]
       first
         | rfl
         | (repeat' split) <;> simp_all <;> omega)

end Jmes
