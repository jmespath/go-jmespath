/-
  Proofs.ParserPos — a successful parse does not depend on token positions,
  nor on the `value` field of tokens whose type alone carries their meaning
  (operators, brackets, …).  Stated on the relational description `R`:
  related calls have related outcomes with the same AST (`Transfers`); the theorem (`R_transfer`) is the
  instance of `R_sim` at `PRel`, in Proofs/Sim.lean.
-/
import Proofs.ParserRel
namespace Jmes.Parser
variable {N : Type} [NumOps N]

/-- token types whose `value` the parser reads -/
def valued : TokType → Bool
  | .uident | .qident | .number | .stringLiteral | .jsonLiteral => true
  | _ => false

def TokRel (t t' : Token) : Prop := t.ty = t'.ty ∧ (valued t.ty = true → t.value = t'.value)

theorem TokRel.refl (t : Token) : TokRel t t := ⟨rfl, fun _ => rfl⟩

section
variable {t t' : Token} (h : TokRel t t')
include h

theorem TokRel.ty_eq {ty : TokType} (e : t.ty = ty) : t'.ty = ty := h.1 ▸ e
theorem TokRel.ty_ne {ty : TokType} (e : t.ty ≠ ty) : t'.ty ≠ ty := h.1 ▸ e
theorem TokRel.value_of {ty : TokType} (e : t.ty = ty) (hv : valued ty = true) : t'.value = t.value := (h.2 (e ▸ hv)).symm
theorem TokRel.value_ident (hk : t.ty = .uident ∨ t.ty = .qident) : t'.value = t.value :=
  hk.elim (h.value_of · rfl) (h.value_of · rfl)

end

inductive ToksRel : List Token → List Token → Prop where
  | nil : ToksRel [] []
  | cons {t t' : Token} {l l' : List Token} : TokRel t t' → ToksRel l l' → ToksRel (t :: l) (t' :: l')

theorem ToksRel.refl : ∀ l : List Token, ToksRel l l
  | [] => .nil
  | t :: l => .cons (.refl t) (ToksRel.refl l)

theorem ToksRel.append_inv {a b l' : List Token} (h : ToksRel (a ++ b) l') :
    ∃ a' b', l' = a' ++ b' ∧ ToksRel a a' ∧ ToksRel b b' := by
  induction a generalizing l' with
  | nil => exact ⟨[], l', rfl, .nil, h⟩
  | cons t a ih =>
    cases h with
    | cons htt h =>
      obtain ⟨a', b', rfl, ha, hb⟩ := ih h
      exact ⟨_ :: a', b', rfl, .cons htt ha, hb⟩

structure PRel (p p' : PState) : Prop where
  before : ToksRel p.before p'.before
  after : ToksRel p.after p'.after

theorem PRel.after_cons {p p' : PState} (h : PRel p p') {t : Token} {rest : List Token} (ha : p.after = t :: rest) :
    ∃ t' rest', p'.after = t' :: rest' ∧ TokRel t t' ∧ PRel p.advance p'.advance := by
  have h2 := h.after
  rw [ha] at h2
  generalize ha' : p'.after = a' at h2
  cases h2 with
  | @cons _ t' _ rest' htt hrr =>
    refine ⟨t', rest', rfl, htt, ?_⟩
    rw [advance_of_cons ha, advance_of_cons ha']
    exact ⟨.cons htt h.before, hrr⟩

theorem PRel.before_cons2 {p p' : PState} (h : PRel p p') {a b : Token} {rest : List Token} (hb : p.before = a :: b :: rest) :
    ∃ a' b' rest', p'.before = a' :: b' :: rest' ∧ TokRel b b' := by
  have h2 := h.before
  rw [hb] at h2
  generalize p'.before = x at h2
  cases h2 with
  | cons _ hr =>
    cases hr with
    | cons h2 _ => exact ⟨_, _, _, rfl, h2⟩

theorem PRel.cur {p p' : PState} (h : PRel p p') {ty : TokType} (hc : p.cur = .ok ty) : p'.cur = .ok ty := by
  obtain ⟨t, rest, ha, rfl⟩ := cur_eq_ok.mp hc
  obtain ⟨t', rest', ha', htt, _⟩ := h.after_cons ha
  rw [cur_cons ha', htt.1]

def Call.state : Call N → PState
  | .expr _ p | .loop _ _ p | .nud _ p | .led _ _ p | .dot _ p | .msl p _ | .msh p _ | .args p | .prhs _ p
  | .filter _ p | .pis _ _ p => p

def Call.tok : Call N → Token
  | .nud t _ => t
  | _ => default

def Call.retarget : Call N → Token → PState → Call N
  | .expr k _, _, p => .expr k p
  | .loop k l _, _, p => .loop k l p
  | .nud _ _, t, p => .nud t p
  | .led ty l _, _, p => .led ty l p
  | .dot k _, _, p => .dot k p
  | .msl _ acc, _, p => .msl p acc
  | .msh _ acc, _, p => .msh p acc
  | .args _, _, p => .args p
  | .prhs k _, _, p => .prhs k p
  | .filter n _, _, p => .filter n p
  | .pis l r _, _, p => .pis l r p

def Out.state : Out N → PState
  | .node _ p | .args _ p => p

def Out.setState : Out N → PState → Out N
  | .node n _, p => .node n p
  | .args a _, p => .args a p

def Transfers (tbl : ParserTable) (c : Call N) (o : Out N) : Prop :=
  ∀ (tok' : Token) (p' : PState), PRel c.state p' → TokRel c.tok tok' →
    ∃ p1', PRel o.state p1' ∧ R tbl (c.retarget tok' p') (o.setState p1')

end Jmes.Parser
