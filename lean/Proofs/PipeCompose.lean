/-
  Proofs.PipeCompose — `A | B` for ARBITRARY expressions: if the token lists `A` and `B` each parse
  (to `a` and `b`), then `A`, a pipe, `B` parses, to an AST that evaluates as `b` after `a`.

  The AST is not literally `Pipe a b` when `B` itself contains pipes at its top level
  (`A | B1 | B2` is read `(A | B1) | B2`, `B1 | B2` alone is `B1 | B2`): it is a re-association,
  and pipes compose associatively.  Uses Proofs/Context.lean (`R_moves`): inside `A | B` the phrase
  `A` is read as it is read alone, and `B` is read at level 1 instead of 0.
-/
import Proofs.Context
import Proofs.EvalEq
namespace Jmes.Parser
open Jmes Jmes.Interp
variable {N : Type} [NumOps N]

/-- Induction along a run of the Pratt loop, from its end: only `stop` and `step` derive a `.loop` call, and neither changes the
    level or the result.  (Induction on `R` itself needs the call as a variable and visits every constructor.) -/
@[elab_as_elim]
theorem R.loop_ind {tbl : ParserTable} {k : Nat} {r : Node N} {pEnd : PState} {motive : Node N → PState → Prop}
    (stop : ∀ {t rest}, pEnd.after = t :: rest → ¬ k < tbl.power t.ty → motive r pEnd)
    (step : ∀ {left p t rest left' p1}, p.after = t :: rest → k < tbl.power t.ty →
      R tbl (.led t.ty left p.advance) (.node left' p1) → R tbl (.loop k left' p1) (.node r pEnd) → motive left' p1 → motive left p)
    {left : Node N} {p : PState} (h : R tbl (.loop k left p) (.node r pEnd)) : motive left p := by
  generalize hc : Call.loop k left p = c, ho : Out.node r pEnd = o at h
  induction h generalizing left p with (cases hc)
  | stop hafter hnot =>
    cases ho
    exact stop hafter hnot
  | step hafter hlt hled hloop _ ih2 =>
    subst ho
    exact step hafter hlt hled hloop (ih2 rfl rfl)

theorem loop_stops {k : Nat} {left r : Node N} {p p1 : PState} (h : R T (.loop k left p) (.node r p1)) :
    ∃ t rest, p1.after = t :: rest ∧ ¬ k < T.power t.ty :=
  R.loop_ind (fun hafter hnot => ⟨_, _, hafter, hnot⟩) (fun _ _ _ _ ih => ih) h

theorem expr_stops {k : Nat} {p p1 : PState} {r : Node N} (h : R T (.expr k p) (.node r p1)) :
    ∃ t rest, p1.after = t :: rest ∧ ¬ k < T.power t.ty := by
  cases h with
  | expr _ _ hloop => exact loop_stops hloop

theorem pow_one_pipe {ty : TokType} (h0 : 0 < specPow ty) (h1 : specPow ty ≤ 1) : ty = .pipe := by
  revert h0 h1
  cases ty <;> decide

/-- a chain of top-level pipes, replayed with another left operand that evaluates as `G` followed by the old one -/
theorem chain_subst {M b : Node N} {q qEnd : PState} (h : R T (.loop 0 M q) (.node b qEnd)) :
    (∃ t rest, q.after = t :: rest ∧ T.power t.ty ≤ 1) →
      ∀ (M' : Node N) (G : List FnEntry → Val N → Res (Val N)), (∀ ft d, eval ft M' d = (G ft d >>= eval ft M)) →
        ∃ X, R T (.loop 0 M' q) (.node X qEnd) ∧ ∀ ft d, eval ft X d = (G ft d >>= eval ft b) := by
  refine R.loop_ind (fun hafter hnot _ M' G hM => ⟨M', R.stop hafter hnot, hM⟩)
    (fun {left p t rest left' p1} hafter hlt hled _ ih2 hnext M' G hM => ?_) h
  obtain ⟨t2, rest2, hafter2, hle⟩ := hnext
  rw [hafter] at hafter2; cases hafter2
  have hty : t.ty = .pipe := pow_one_pipe (T_power _ ▸ hlt) (T_power _ ▸ hle)
  rw [hty] at hled
  cases hled with
  | @ledPipe _ _ r _ hexpr =>
    obtain ⟨t3, rest3, hafter3, hnot3⟩ := expr_stops hexpr   -- at level `T.ledPipe`, which is 1
    obtain ⟨X, hRX, hev⟩ := ih2 ⟨t3, rest3, hafter3, Nat.le_of_not_lt hnot3⟩ (.pipe M' r) G (fun ft d => by
        rw [eval_pipe, hM, Res.bind_assoc]
        congr 1; funext v; exact (eval_pipe ft left r v).symm)
    refine ⟨X, R.step hafter hlt ?_ hRX, hev⟩
    rw [hty]; exact R.ledPipe hexpr
  | ledCmp hop _ => simp [Cmp.ofTok] at hop

/-- the next token is a pipe or ends the loop: the loop at level 1 reads nothing -/
theorem loop0_split_low {left b : Node N} {q qEnd : PState} (h : R T (.loop 0 left q) (.node b qEnd)) {t : Token}
    {rest : List Token} (hafter : q.after = t :: rest) (hle : T.power t.ty ≤ 1) (L0 : Node N) :
    ∃ r1 q1 X, R T (.loop 1 left q) (.node r1 q1) ∧ R T (.loop 0 (.pipe L0 r1) q1) (.node X qEnd) ∧
      ∀ ft d, eval ft X d = (eval ft L0 d >>= eval ft b) := by
  obtain ⟨X, hRX, hev⟩ := chain_subst h ⟨t, rest, hafter, hle⟩ (.pipe L0 left) (fun ft d => eval ft L0 d)
    (fun ft d => eval_pipe ft L0 left d)
  exact ⟨left, q, X, R.stop hafter (by omega), hRX, hev⟩

/-- what a loop at level 0 reads, a loop at level 1 reads up to the first top-level pipe; from there the
    loop at level 0 goes on, whatever stands to the left of the whole -/
theorem loop0_split {left b : Node N} {q qEnd : PState} (h : R T (.loop 0 left q) (.node b qEnd)) (L0 : Node N) :
    ∃ r1 q1 X, R T (.loop 1 left q) (.node r1 q1) ∧ R T (.loop 0 (.pipe L0 r1) q1) (.node X qEnd) ∧
      ∀ ft d, eval ft X d = (eval ft L0 d >>= eval ft b) := by
  refine R.loop_ind (fun hafter hnot => loop0_split_low (R.stop hafter hnot) hafter (by omega) L0)
    (fun {left p t rest left' p1} hafter hlt hled hloop ih2 => ?_) h
  by_cases hle : T.power t.ty ≤ 1
  · exact loop0_split_low (R.step hafter hlt hled hloop) hafter hle L0
  · obtain ⟨r1, q1, X, hL1, hL0, hev⟩ := ih2
    exact ⟨r1, q1, X, R.step hafter (by omega) hled hL1, hL0, hev⟩

section
variable {A B : Around} (hA : A.e.ty = .eof) (hAr : A.rest = [])

include hA hAr in
/-- the outermost loop of a phrase: when something follows that it does not stop at, it reads the
    phrase as before and then goes on -/
theorem loop0_resume (hB : followerOK B.e.ty = true) {c : Call N} {o : Out N} (h : R T c o) :
    ∀ left p a pEnd, c = .loop 0 left p → o = .node a pEnd → pEnd.after = A.e :: A.rest →
      ∀ n p', 1 ≤ n → CRel A B n p p' →
        ∃ pEnd', CRel A B n pEnd pEnd' ∧ ∀ o', R T (.loop 0 a pEnd') o' → R T (.loop 0 left p') o' := by
  intro left0 p0 a pEnd hc ho hend
  subst hc ho
  refine R.loop_ind (fun _ _ n p' _ hrel => ⟨p', hrel, fun o' ho' => ho'⟩) (fun hafter hlt hled _ ih2 n p' hn hrel => ?_) h
  obtain ⟨r', ha', hadv⟩ := hrel.cons hA hafter (pow_pos_ne_eof (T_power _ ▸ hlt))
  obtain ⟨p1', hp1, hR1⟩ := R_moves hA hB hAr hled (n + 1) p'.advance (Nat.succ_le_succ hn) hadv trivial
  obtain ⟨pEnd', hrel', hres⟩ := ih2 (n + 1) p1' (Nat.le_add_left 1 n) hp1
  exact ⟨pEnd', hrel'.mono (Nat.le_succ n), fun o' ho' => R.step ha' hlt hR1 (hres o' ho')⟩

include hA hAr in
/-- `chain_subst` in other surroundings -/
theorem outer_chain (hB : B.e.ty = .eof) {c : Call N} {o : Out N} (h : R T c o) :
    ∀ M q b qEnd, c = .loop 0 M q → o = .node b qEnd → qEnd.after = A.e :: A.rest →
      (∃ t rest, q.after = t :: rest ∧ T.power t.ty ≤ 1) →
      ∀ n q', 1 ≤ n → CRel A B n q q' → ∀ (M' : Node N) (G : List FnEntry → Val N → Res (Val N)),
        (∀ ft d, eval ft M' d = (G ft d >>= eval ft M)) →
        ∃ X qEnd', R T (.loop 0 M' q') (.node X qEnd') ∧ CRel A B n qEnd qEnd' ∧
          ∀ ft d, eval ft X d = (G ft d >>= eval ft b) := by
  intro M q b qEnd hc ho _ hnext n q' hn hrel M' G hM
  subst hc ho
  obtain ⟨X, hX, hev⟩ := chain_subst h hnext M' G hM
  obtain ⟨qEnd', hqE, hX'⟩ := R_moves hA (by rw [hB]; rfl) hAr hX n q' hn hrel (Or.inl (by rw [hB]; exact Nat.zero_le _))
  exact ⟨X, qEnd', hX', hqE, hev⟩

include hA hAr in
/-- `loop0_split` in other surroundings -/
theorem pipe_chain (hB : B.e.ty = .eof) {c : Call N} {o : Out N} (h : R T c o) :
    ∀ left q b qEnd, c = .loop 0 left q → o = .node b qEnd → qEnd.after = A.e :: A.rest →
      ∀ n q', 1 ≤ n → CRel A B n q q' → ∀ L0 : Node N,
        ∃ r1 q1' X qEnd', R T (.loop 1 left q') (.node r1 q1') ∧ R T (.loop 0 (.pipe L0 r1) q1') (.node X qEnd') ∧
          CRel A B n qEnd qEnd' ∧ ∀ ft d, eval ft X d = (eval ft L0 d >>= eval ft b) := by
  intro left q b qEnd hc ho _ n q' hn hrel L0
  subst hc ho
  obtain ⟨r1, q1, X, hL1, hL0, hev⟩ := loop0_split h L0
  have hfol : followerOK B.e.ty = true := by rw [hB]; rfl
  have hside : ∀ k, specPow B.e.ty ≤ k := fun k => by rw [hB]; exact Nat.zero_le k
  obtain ⟨q1', hq1, hL1'⟩ := R_moves hA hfol hAr hL1 n q' hn hrel (Or.inl (hside _))
  obtain ⟨qEnd', hqE, hL0'⟩ := R_moves hA hfol hAr hL0 n q1' hn hq1 (Or.inl (hside _))
  exact ⟨r1, q1', X, qEnd', hL1', hL0', hqE, hev⟩

end

/-- An expression that parses on its own (to `a`) is read to `a` by the outermost loop in any surroundings
    where an admissible follower comes next; that loop then goes on with the follower. -/
theorem expr0_resume {As : List Token} {eA : Token} {a : Node N} (heA : eA.ty = .eof)
    (hPA : R T (.expr 0 ⟨[], As ++ [eA]⟩) (.node a ⟨As.reverse, [eA]⟩))
    (bef : List Token) (f : Token) (rest : List Token) (hf : followerOK f.ty = true) {o' : Out N}
    (ho : R T (.loop 0 a ⟨As.reverse ++ bef, f :: rest⟩) o') : R T (.expr 0 ⟨bef, As ++ f :: rest⟩) o' := by
  cases hPA with
  | expr hafter hnud hloop =>
  obtain ⟨r', ha', hadv⟩ := (CRel.start As eA bef f rest).cons heA hafter (nud_ne_eof hnud)
  obtain ⟨p1', hp1, hRnud⟩ := R_moves heA hf rfl hnud 1 _ (Nat.le_refl _) hadv trivial
  obtain ⟨pEnd', hrelEnd, hresume⟩ := loop0_resume heA rfl hf hloop _ _ _ _ rfl rfl rfl 1 p1' (Nat.le_refl _) hp1
  obtain rfl := hrelEnd.at_end rfl rfl
  exact R.expr ha' hRnud (hresume _ ho)

theorem pipe_of_parses {As Bs : List Token} {eA eB pt : Token} {a b : Node N}
    (heA : eA.ty = .eof) (heB : eB.ty = .eof) (hpt : pt.ty = .pipe)
    (hPA : R T (.expr 0 ⟨[], As ++ [eA]⟩) (.node a ⟨As.reverse, [eA]⟩))
    (hPB : R T (.expr 0 ⟨[], Bs ++ [eB]⟩) (.node b ⟨Bs.reverse, [eB]⟩)) :
    ∃ X, R T (.expr 0 ⟨[], As ++ pt :: (Bs ++ [eB])⟩) (.node X ⟨(As ++ pt :: Bs).reverse, [eB]⟩) ∧
      ∀ ft d, eval ft X d = (eval ft a d >>= eval ft b) := by
  -- `B`, started right after the pipe: read at level 1, then the outer loop takes `B`'s own top-level pipes
  cases hPB with
  | expr hafterB hnudB hloopB =>
  obtain ⟨rB', haB', hadvB⟩ := (CRel.start Bs eB (pt :: As.reverse) eB []).cons heB hafterB (nud_ne_eof hnudB)
  obtain ⟨pB1', hpB1, hRnudB⟩ := R_moves heB (by rw [heB]; rfl) rfl hnudB 1 _ (Nat.le_refl _) hadvB trivial
  obtain ⟨r1, q1', X, qEnd', hL1, hL0, hrelEndB, hev⟩ :=
    pipe_chain heB rfl heB hloopB _ _ _ _ rfl rfl rfl 1 pB1' (Nat.le_refl _) hpB1 a
  obtain rfl := hrelEndB.at_end rfl rfl
  refine ⟨X, ?_, hev⟩
  -- `A` is read as alone; its outermost loop goes on with the pipe
  rw [show (As ++ pt :: Bs).reverse = Bs.reverse ++ pt :: As.reverse by simp]
  refine expr0_resume heA hPA [] pt (Bs ++ [eB]) (by rw [hpt]; rfl) ?_
  rw [List.append_nil]
  refine R.step rfl (by rw [T_power, hpt]; decide) ?_ hL0
  rw [hpt]
  exact R.ledPipe (R.expr haB' hRnudB hL1)

end Jmes.Parser
