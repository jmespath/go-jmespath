/-
  Proofs.LiteralToken — backtick literals, for every JSON value: the JSON text of a
  value (`encode`, the model of `json.Marshal`), with every backtick written
  `` \` ``, placed between backticks, is read by the lexer as ONE literal token
  whose value is that JSON text.

  The scanner (`consumeUntil`) skips the byte after a backslash, so what has to be
  shown is that in JSON text a backslash is always followed by an ASCII byte that
  is not a backtick (it only occurs inside strings, as one of the escapes
  `\" \\ \b \f \n \r \t \uXXXX`), that multi-byte runes are well formed
  (strings are `ValidUtf8`), and that everything else is plain ASCII (`LUnits`).
  The number text is a parameter (`NumPlain`: digits, sign, point, exponent —
  proved for the integer instance, assumed for the ported float formatter).
-/
import Proofs.QuotedIdent
import Proofs.JsonValue
import Proofs.IntCodec
namespace Jmes.Lexer
open Jmes.Utf8 Jmes.Json

/-- JSON text as the backtick scanner will see it after `` ` `` has been written `` \` ``: plain ASCII
    bytes other than the backslash (the backtick included), a backslash followed by an ASCII byte that
    is not a backtick, or a well-formed multi-byte rune. -/
inductive LUnits : Bytes → Prop where
  | nil : LUnits []
  | plain (c : UInt8) (rest : Bytes) : c < 0x80 → c ≠ 0x5C → LUnits rest → LUnits (c :: rest)
  | esc (d : UInt8) (rest : Bytes) : d < 0x80 → d ≠ 0x60 → LUnits rest → LUnits (0x5C :: d :: rest)
  | multi (c : UInt8) (cs : Bytes) : 1 < (decodeRune (c :: cs)).2 → 0x80 ≤ (decodeRune (c :: cs)).1 →
      LUnits ((c :: cs).drop (decodeRune (c :: cs)).2) → LUnits (c :: cs)

theorem lunits_append {a b : Bytes} (ha : LUnits a) (hb : LUnits b) : LUnits (a ++ b) := by
  induction ha with
  | nil => exact hb
  | plain c rest h1 h3 _ ih => exact LUnits.plain c _ h1 h3 ih
  | esc d rest hd hne _ ih => exact LUnits.esc d _ hd hne ih
  | multi c cs hw _ _ ih =>
    rw [← List.take_append_drop (decodeRune (c :: cs)).2 (c :: cs), List.append_assoc]
    exact (multi_take hw).unit LUnits.multi ih

theorem lunits_plain {s : Bytes} (h : ∀ c ∈ s, c < 0x80 ∧ c ≠ 0x5C) : LUnits s := by
  induction s with
  | nil => exact .nil
  | cons c cs ih =>
    obtain ⟨hc, hcs⟩ := List.forall_mem_cons.mp h
    exact .plain c cs hc.1 hc.2 (ih hcs)

theorem lunits_string {s : Bytes} (hv : ValidUtf8 s) : LUnits (encodeString s) :=
  LUnits.plain 0x22 _ (by decide) (by decide)
    (lunits_append
      (escape_units LUnits.nil (fun c rest hc _ => LUnits.plain c rest hc) LUnits.esc LUnits.multi hv s.length (Nat.le_refl _))
      (lunits_plain (by decide)))

theorem units_btSpell {t : Bytes} (h : LUnits t) : Units 0x60 (btSpell t) := by
  rw [btSpell_eq]
  induction h with
  | nil => exact Units.nil
  | plain c rest hc h5 _ ih =>
    by_cases hb : c = 0x60
    · subst hb
      exact Units.esc 0x60 _ (by decide) ih
    · rw [spell_cons_ne hb]
      exact Units.plain c _ hc hb h5 ih
  | esc d rest hd hne _ ih =>
    rw [spell_cons_ne (by decide : (0x5C : UInt8) ≠ 0x60), spell_cons_ne hne]
    exact Units.esc d _ hd ih
  | multi c cs hw _ _ ih =>
    have hm := multi_take hw
    rw [← List.take_append_drop (decodeRune (c :: cs)).2 (c :: cs), spell_nonascii (by decide) _ _ hm.hi]
    exact hm.unit Units.multi ih

theorem lunits_intercalate : ∀ (l : List Bytes), (∀ x ∈ l, LUnits x) → LUnits (intercalate [0x2C] l)
  | [], _ => LUnits.nil
  | [x], h => h x (by simp)
  | x :: y :: rest, h =>
    have ⟨hx, hrest⟩ := List.forall_mem_cons.mp h
    lunits_append (lunits_append hx (lunits_plain (by decide))) (lunits_intercalate (y :: rest) hrest)

/-- the text of a finite number is plain ASCII without backslashes (digits, sign, point, exponent) -/
def NumPlain (N : Type) [NumOps N] : Prop :=
  ∀ n : N, NumOps.isFinite n = true → ∀ c ∈ NumOps.format n, c < 0x80 ∧ c ≠ 0x5C

variable {N : Type} [NumOps N]

mutual
theorem lunits_encode (hP : NumPlain N) : (v : Val N) → okV v → LUnits (encode v)
  | .null, _ => lunits_plain (s := [0x6E, 0x75, 0x6C, 0x6C]) (by decide)  -- null
  | .bool true, _ => lunits_plain (s := [0x74, 0x72, 0x75, 0x65]) (by decide)  -- true
  | .bool false, _ => lunits_plain (s := [0x66, 0x61, 0x6C, 0x73, 0x65]) (by decide)  -- false
  | .num n, h => lunits_plain (hP n h)
  | .str s, h => lunits_string h
  | .arr xs, h => LUnits.plain 0x5B _ (by decide) (by decide)
      (lunits_append (lunits_intercalate _ (lunits_encodeList hP xs h)) (lunits_plain (by decide)))
  | .obj kvs, h => LUnits.plain 0x7B _ (by decide) (by decide)
      (lunits_append (lunits_intercalate _ (lunits_encodeKVs hP kvs h.2)) (lunits_plain (by decide)))
theorem lunits_encodeList (hP : NumPlain N) : (xs : List (Val N)) → okList xs → ∀ x ∈ encodeList xs, LUnits x
  | [], _ => fun _ h => nomatch h
  | v :: vs, h => List.forall_mem_cons.mpr ⟨lunits_encode hP v h.1, lunits_encodeList hP vs h.2⟩
theorem lunits_encodeKVs (hP : NumPlain N) : (kvs : List (Bytes × Val N)) → okKVs kvs → ∀ x ∈ encodeKVs kvs, LUnits x
  | [], _ => fun _ h => nomatch h
  | (k, v) :: rest, h => List.forall_mem_cons.mpr ⟨lunits_append (lunits_string h.1)
      (LUnits.plain 0x3A _ (by decide) (by decide) (lunits_encode hP v h.2.1)), lunits_encodeKVs hP rest h.2.2⟩
end

/-- **Literal tokens, for every JSON value**: `` ` `` + the JSON text of `v` with every backtick
    escaped + `` ` `` spells the literal token whose value is the JSON text of `v`. -/
theorem spell_literal (hP : NumPlain N) (v : Val N) (hv : okV v) :
    Spell .jsonLiteral (encode v) (0x60 :: (btSpell (encode v) ++ [0x60])) :=
  Spell.lit (encode v) (units_btSpell (lunits_encode hP v hv))

end Jmes.Lexer

namespace Jmes
open Jmes.Lexer

theorem isDig_plain (c : UInt8) (h : Json.isDigit c = true) : c < 0x80 ∧ c ≠ 0x5C :=
  ⟨Json.digit_ascii h, Json.digit_ne h rfl⟩

theorem intNumPlain : NumPlain Int := by
  intro i _ c hc
  obtain ⟨d, ds, e, hd, _, _⟩ := natToDec_spec i.natAbs
  change c ∈ intFormat i at hc
  unfold intFormat at hc
  rw [e] at hc
  split at hc
  · rcases List.mem_cons.mp hc with rfl | h
    · decide
    · exact isDig_plain c (hd c h)
  · exact isDig_plain c (hd c hc)

end Jmes
