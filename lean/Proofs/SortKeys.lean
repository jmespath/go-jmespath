/-
  Proofs.SortKeys — the key loops of sort_by / max_by / min_by over arrays of any length: one element that provides
  no key (its key expression fails, or returns a value of the wrong kind), WHEREVER it sits, turns the whole key
  collection into "no keys" (sort_by) or stops the scan with an error (max_by / min_by).
-/
import Proofs.FunctionsMore
namespace Jmes.Fn
variable {N K : Type} (proj : Val N → Option K) (f : Val N → Res (Val N))

theorem keysOf_ok_of_no_panic : ∀ xs : List (Val N), (∀ z ∈ xs, ∀ p, f z ≠ .panic p) → ∃ o, keysOf proj f xs = .ok o
  | [], _ => ⟨_, rfl⟩
  | x :: xs, hp => by
    obtain ⟨o, ho⟩ := keysOf_ok_of_no_panic xs fun z hz => hp z (List.mem_cons_of_mem _ hz)
    rw [keysOf_cons proj f x xs (hp x (List.mem_cons_self ..)), ho]
    exact ⟨_, rfl⟩

theorem keysOf_none : ∀ {xs : List (Val N)} {y : Val N},
    y ∈ xs → keyOf proj (f y) = none → (∀ z ∈ xs, ∀ p, f z ≠ .panic p) → keysOf proj f xs = .ok none
  | x :: xs, y, hy, h1, hp => by
    have hpt := fun z hz => hp z (List.mem_cons_of_mem _ hz)
    rw [keysOf_cons proj f x xs (hp x (List.mem_cons_self ..))]
    rcases List.mem_cons.mp hy with rfl | hy'
    · obtain ⟨o, ho⟩ := keysOf_ok_of_no_panic proj f xs hpt
      rw [ho, h1]
      rfl
    · rw [keysOf_none hy' h1 hpt]
      cases keyOf proj (f x) <;> rfl

theorem byLoop_err {bad : Err} {better : K → K → Bool} : ∀ {xs : List (Val N)} {y : Val N},
    y ∈ xs → keyOf proj (f y) = none → (∀ z ∈ xs, ∀ p, f z ≠ .panic p) →
    ∀ bv bi, ∃ e, byLoop proj bad f better bv bi xs = .err e
  | x :: xs, y, hy, h1, hp, bv, bi => by
    unfold byLoop
    split
    · rename_i v hv
      split
      · rename_i cur hcur
        have hy' : y ∈ xs := (List.mem_cons.mp hy).resolve_left fun e => by
          subst e
          rw [hv] at h1
          exact absurd (hcur.symm.trans h1) (by simp)
        split <;> exact byLoop_err hy' h1 (fun z hz => hp z (List.mem_cons_of_mem _ hz)) _ _
      · exact ⟨_, rfl⟩
    · exact ⟨_, rfl⟩
    · exact absurd ‹_› (hp x (List.mem_cons_self ..) _)

end Jmes.Fn
