/-
  Proofs.EvalJson — closure: a successful evaluation over a JSON document,
  with JSON literals, returns JSON (`Val.isJSON`: no NaN/Inf, object keys
  strictly ascending).
-/
import Proofs.FunctionsJson
import Proofs.EvalEq
import Proofs.Slice
namespace Jmes.Interp
variable {N : Type} [NumOps N]
open Jmes.Val

mutual
/-- Every literal in the AST is a JSON value (decoded JSON text or a raw string). -/
def litsJSON : Node N → Prop
  | .literal v => v.isJSON = true
  | .cmp _ l r | .indexExpr l r | .or l r | .and l r | .pipe l r | .proj l r | .sub l r | .valueProj l r =>
    litsJSON l ∧ litsJSON r
  | .filterProj l r c => litsJSON l ∧ litsJSON r ∧ litsJSON c
  | .flatten e | .not e => litsJSON e
  | .call _ args => litsJSONArgs args
  | .msHash kvs => litsJSONKVs kvs
  | .msList xs => litsJSONList xs
  | _ => True
def litsJSONList : List (Node N) → Prop
  | [] => True
  | x :: xs => litsJSON x ∧ litsJSONList xs
def litsJSONKVs : List (Bytes × Node N) → Prop
  | [] => True
  | (_, x) :: xs => litsJSON x ∧ litsJSONKVs xs
def litsJSONArgs : List (Bool × Node N) → Prop
  | [] => True
  | (_, x) :: xs => litsJSON x ∧ litsJSONArgs xs
end

theorem projectLoop_json {f : Val N → Res (Val N)} {xs ys : List (Val N)} (hx : ∀ x ∈ xs, x.isJSON = true)
    (hf : ∀ v r, v.isJSON = true → f v = .ok r → r.isJSON = true) (h : projectLoop f xs = .ok ys) :
    ∀ y ∈ ys, y.isJSON = true := by
  rw [projectLoop_eq] at h
  obtain ⟨zs, hzs, h⟩ := Res.bind_eq_ok.mp h
  cases h
  intro y hy
  obtain ⟨x, hxs, hfx⟩ := Res.mapM'_mem hzs (mem_dropNulls hy)
  exact hf x y (hx x hxs) hfx

theorem filterLoop_json {c f : Val N → Res (Val N)} (hf : ∀ v r, v.isJSON = true → f v = .ok r → r.isJSON = true)
    {xs ys : List (Val N)} (hx : ∀ x ∈ xs, x.isJSON = true) (h : filterLoop c f xs = .ok ys) : ∀ y ∈ ys, y.isJSON = true := by
  rw [filterLoop_eq_projectLoop] at h
  refine projectLoop_json hx (fun v r hv hr => ?_) h
  obtain ⟨cv, _, hr⟩ := Res.bind_eq_ok.mp hr
  split at hr
  · cases hr; rfl
  · exact hf v r hv hr

theorem projectOver_json {elems : Val N → Option (List (Val N))} {loop : List (Val N) → Res (List (Val N))} {v r : Val N}
    (hloop : ∀ xs ys, elems v = some xs → loop xs = .ok ys → ∀ y ∈ ys, y.isJSON = true)
    (h : projectOver elems loop v = .ok r) : r.isJSON = true := by
  unfold projectOver at h
  split at h
  · rename_i xs hxs
    obtain ⟨ys, hys, h⟩ := Res.bind_eq_ok.mp h
    cases h
    exact isJSON_arr.mpr (hloop xs ys hxs hys)
  · cases h; rfl

theorem arrElems_json {v : Val N} (hv : v.isJSON = true) {xs : List (Val N)} (h : arrElems v = some xs) :
    ∀ x ∈ xs, x.isJSON = true := by
  cases v <;> cases h
  exact isJSON_arr.mp hv

theorem objElems_json {v : Val N} (hv : v.isJSON = true) {xs : List (Val N)} (h : objElems v = some xs) :
    ∀ x ∈ xs, x.isJSON = true := by
  cases v <;> cases h
  intro x hx
  obtain ⟨kv, hkv, rfl⟩ := List.mem_map.mp hx
  exact (isJSON_obj.mp hv).2 kv hkv

theorem flattenOnce_json (xs : List (Val N)) (hx : ∀ x ∈ xs, x.isJSON = true) : ∀ y ∈ flattenOnce xs, y.isJSON = true := by
  induction xs with
  | nil => intro y hy; cases hy
  | cons x xs ih =>
    have ih' := ih (fun a ha => hx a (by simp [ha]))
    have hxj := hx x (by simp)
    cases x <;> intro y hy
    case arr zs =>
      rcases List.mem_append.mp hy with h | h
      · exact isJSON_arr.mp hxj y h
      · exact ih' y h
    all_goals exact (List.mem_cons.mp hy).elim (fun e => e ▸ hxj) (ih' y)

theorem indexArr_json (xs : List (Val N)) (i : Int) (hx : ∀ x ∈ xs, x.isJSON = true) : (indexArr xs i).isJSON = true := by
  have hget : ∀ k, (xs.getD k .null).isJSON = true := fun k => by
    rw [List.getD_eq_getElem?_getD]
    cases hg : xs[k]? with
    | none => rfl
    | some v => exact hx v (List.mem_of_getElem? hg)
  unfold indexArr
  dsimp only
  split <;> (split; exact hget _; rfl)

theorem compareVals_json (op : Cmp) (l r : Val N) : (compareVals op l r).isJSON = true := by
  unfold compareVals
  split
  · rfl
  · rfl
  · split
    · split <;> rfl
    · rfl

variable [NumLaws N] (ft : List FnEntry)

mutual
theorem eval_json : ∀ (n : Node N), litsJSON n → ∀ (d r : Val N), d.isJSON = true → eval ft n d = .ok r → r.isJSON = true
  -- the match is on the node alone: with all six arguments as patterns Lean compiles a far larger case analysis
  | .empty => fun _ _ _ _ h => by cases h
  | .cmp op l r => fun _ d res _ h => by
    rw [eval_cmp] at h
    obtain ⟨lv, _, h⟩ := Res.bind_eq_ok.mp h
    obtain ⟨rv, _, h⟩ := Res.bind_eq_ok.mp h
    cases h
    exact compareVals_json _ _ _
  | .current | .identity => fun _ d r hd h => by cases h; exact hd
  | .call name args => fun hl d r hd h => by
    rw [eval_call] at h
    obtain ⟨as, ha, h⟩ := Res.bind_eq_ok.mp h
    exact Fn.callFunction_json (evalArgs_json args hl d as hd ha) h
  | .field name => fun _ d r hd h => by
    rw [eval_field] at h
    cases h
    cases d with
    | obj kvs => exact isJSON_lookup name kvs hd
    | _ => rfl
  | .filterProj l rn c => fun hl d r hd h => by
    rw [eval_filterProj] at h
    obtain ⟨v, hv, h⟩ := Res.bind_eq_ok.mp h
    exact projectOver_json (fun xs ys hxs =>
      filterLoop_json (eval_json rn hl.2.1) (arrElems_json (eval_json l hl.1 d v hd hv) hxs)) h
  | .flatten e => fun hl d r hd h => by
    rw [eval_flatten] at h
    obtain ⟨v, hv, h⟩ := Res.bind_eq_ok.mp h
    cases h
    have hvj := eval_json e hl d v hd hv
    cases v with
    | arr xs => exact isJSON_arr.mpr (flattenOnce_json xs (isJSON_arr.mp hvj))
    | _ => rfl
  | .index i => fun _ d r hd h => by
    rw [eval_index] at h
    cases h
    cases d with
    | arr xs => exact indexArr_json xs i (isJSON_arr.mp hd)
    | _ => rfl
  | .literal v => fun hl _ r _ h => by cases h; exact hl
  | .msHash kvs => fun hl d r hd h => by
    rw [eval_msHash] at h
    split at h
    · cases h; rfl
    · obtain ⟨ps, hps, h⟩ := Res.bind_eq_ok.mp h
      cases h
      exact isJSON_foldl_insert (evalKVs_json kvs hl d ps hd hps) rfl
  | .msList xs => fun hl d r hd h => by
    rw [eval_msList] at h
    split at h
    · cases h; rfl
    · obtain ⟨vs, hvs, h⟩ := Res.bind_eq_ok.mp h
      cases h
      exact isJSON_arr.mpr (evalList_json xs hl d vs hd hvs)
  | .or l rn => fun hl d r hd h => by
    rw [eval_or] at h
    obtain ⟨m, hm, h⟩ := Res.bind_eq_ok.mp h
    split at h
    · exact eval_json rn hl.2 d r hd h
    · cases h; exact eval_json l hl.1 d _ hd hm
  | .and l rn => fun hl d r hd h => by
    rw [eval_and] at h
    obtain ⟨m, hm, h⟩ := Res.bind_eq_ok.mp h
    split at h
    · cases h; exact eval_json l hl.1 d _ hd hm
    · exact eval_json rn hl.2 d r hd h
  | .not e => fun _ d r _ h => by
    rw [eval_not] at h
    obtain ⟨m, _, h⟩ := Res.bind_eq_ok.mp h
    cases h; rfl
  | .pipe l rn | .sub l rn | .indexExpr l rn => fun hl d r hd h => by
    simp only [eval_pipe, eval_sub, eval_indexExpr] at h
    obtain ⟨v, hv, h⟩ := Res.bind_eq_ok.mp h
    exact eval_json rn hl.2 v r (eval_json l hl.1 d v hd hv) h
  | .proj l rn => fun hl d r hd h => by
    rw [eval_proj] at h
    obtain ⟨v, hv, h⟩ := Res.bind_eq_ok.mp h
    exact projectOver_json (fun xs ys hxs =>
      projectLoop_json (arrElems_json (eval_json l hl.1 d v hd hv) hxs) (eval_json rn hl.2)) h
  | .slice a b c => fun _ d r hd h => by
    rw [eval_slice] at h
    exact projectOver_json (fun xs ys hxs hys y hy => arrElems_json hd hxs y (Slice.slice_mem xs a b c ys hys y hy)) h
  | .valueProj l rn => fun hl d r hd h => by
    rw [eval_valueProj] at h
    obtain ⟨v, hv, h⟩ := Res.bind_eq_ok.mp h
    exact projectOver_json (fun xs ys hxs =>
      projectLoop_json (objElems_json (eval_json l hl.1 d v hd hv) hxs) (eval_json rn hl.2)) h
theorem evalList_json : ∀ (xs : List (Node N)), litsJSONList xs → ∀ (d : Val N) (vs : List (Val N)), d.isJSON = true →
    evalList ft xs d = .ok vs → ∀ v ∈ vs, v.isJSON = true
  | [] => fun _ _ vs _ h => by cases h; exact fun _ hv => nomatch hv
  | x :: xs => fun hl d vs hd h => by
    rw [evalList_cons] at h
    obtain ⟨v, hv, h⟩ := Res.bind_eq_ok.mp h
    obtain ⟨ws, hws, h⟩ := Res.bind_eq_ok.mp h
    cases h
    exact List.forall_mem_cons.mpr ⟨eval_json x hl.1 d v hd hv, evalList_json xs hl.2 d ws hd hws⟩
theorem evalKVs_json : ∀ (xs : List (Bytes × Node N)), litsJSONKVs xs → ∀ (d : Val N) (vs : List (Bytes × Val N)), d.isJSON = true →
    evalKVs ft xs d = .ok vs → ∀ kv ∈ vs, kv.2.isJSON = true
  | [] => fun _ _ vs _ h => by cases h; exact fun _ hv => nomatch hv
  | (k, x) :: xs => fun hl d vs hd h => by
    rw [evalKVs_cons] at h
    obtain ⟨v, hv, h⟩ := Res.bind_eq_ok.mp h
    obtain ⟨ws, hws, h⟩ := Res.bind_eq_ok.mp h
    cases h
    exact List.forall_mem_cons.mpr ⟨eval_json x hl.1 d v hd hv, evalKVs_json xs hl.2 d ws hd hws⟩
theorem evalArgs_json : ∀ (args : List (Bool × Node N)), litsJSONArgs args → ∀ (d : Val N) (as : List (Fn.Arg N)), d.isJSON = true →
    evalArgs ft args d = .ok as → Fn.ArgsJSON as
  | [] => fun _ _ as _ h => by cases h; exact .nil
  | (true, x) :: xs => fun hl d as hd h => by
    rw [evalArgs_cons_ref] at h
    obtain ⟨ws, hws, h⟩ := Res.bind_eq_ok.mp h
    cases h
    exact .cons_ref (eval_json x hl.1) (evalArgs_json xs hl.2 d ws hd hws)
  | (false, x) :: xs => fun hl d as hd h => by
    rw [evalArgs_cons_val] at h
    obtain ⟨v, hv, h⟩ := Res.bind_eq_ok.mp h
    obtain ⟨ws, hws, h⟩ := Res.bind_eq_ok.mp h
    cases h
    exact .cons_val (eval_json x hl.1 d v hd hv) (evalArgs_json xs hl.2 d ws hd hws)
end

end Jmes.Interp
