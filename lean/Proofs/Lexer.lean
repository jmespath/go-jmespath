/-
  Proofs.Lexer — `tokenize` never panics, always terminates within its fuel,
  ends its token list with tEOF at len(expression), gives every token a
  position inside the expression, and reports every syntax error with an
  offset in [0, len(expression)] — for ALL byte strings, valid UTF-8 or not.
-/
import Jmes.Lexer
import Proofs.Utf8
namespace Jmes.Lexer
open Jmes.Utf8

theorem drop_width_lt (c : UInt8) (cs : Bytes) :
    ((c :: cs).drop (decodeRune (c :: cs)).2).length < (c :: cs).length := by
  have := decodeRune_width c cs
  simp only [List.length_drop, List.length_cons] at *
  omega

/-- The trailing-identifier table has the two words the guard `r >= 128` needs, and no one-character
    token is tEOF. -/
def TablesSafe (tb : Tables) : Prop := 2 ≤ tb.trailBits.length ∧ ∀ kv ∈ tb.basic, kv.2 ≠ TokType.eof

theorem identTrail_ok {tb : Tables} (h : TablesSafe tb) (r : Nat) : ∃ bv, identTrail tb.trailBits r = .ok bv := by
  unfold identTrail
  split
  · exact ⟨false, rfl⟩
  · rename_i hr
    have : r / 64 < tb.trailBits.length := by have := h.1; omega
    rw [List.getElem?_eq_getElem this]
    exact ⟨_, rfl⟩

theorem scanIdent_ok {tb : Tables} (h : TablesSafe tb) : ∀ (fuel : Nat) (s : Bytes),
    ∃ v rest, scanIdent tb fuel s = .ok (v, rest) ∧ rest.length ≤ s.length
  | 0, s => ⟨[], s, rfl, Nat.le_refl _⟩
  | fuel + 1, [] => ⟨[], [], rfl, Nat.le_refl _⟩
  | fuel + 1, c :: cs => by
    unfold scanIdent
    simp only []
    obtain ⟨bv, hb⟩ := identTrail_ok h (decodeRune (c :: cs)).1
    rw [hb]
    cases bv with
    | false => exact ⟨[], c :: cs, rfl, Nat.le_refl _⟩
    | true =>
      obtain ⟨v, rest, hr, hl⟩ := scanIdent_ok h fuel ((c :: cs).drop (decodeRune (c :: cs)).2)
      simp only [hr]
      refine ⟨_, rest, rfl, ?_⟩
      have := drop_width_lt c cs
      omega

theorem scanDigits_len : ∀ s : Bytes, (scanDigits s).2.length ≤ s.length
  | [] => Nat.le_refl _
  | c :: cs => by
    simp only [scanDigits]
    split
    · have := scanDigits_len cs
      simp only [List.length_cons]
      omega
    · exact Nat.le_refl _

/-- The scanners return `(scan …).map (fun (v, rest) => (… ++ v, rest))`: the rest is that of the recursive call. -/
theorem map_snd_some {α β γ : Type} {o : Option (α × γ)} {f : α × γ → β × γ} {b : β} {c : γ}
    (h : o.map f = some (b, c)) (hf : ∀ p, (f p).2 = p.2) : ∃ a, o = some (a, c) := by
  obtain ⟨⟨a, c'⟩, hp, hq⟩ := Option.map_eq_some_iff.mp h
  have : c = c' := by have := hf (a, c'); rwa [hq] at this
  exact ⟨a, this ▸ hp⟩

theorem consumeUntil_len (endc : Nat) : ∀ (fuel : Nat) (s v rest : Bytes),
    consumeUntil endc fuel s = some (v, rest) → rest.length < s.length
  | 0, _, _, _, h | _ + 1, [], _, _, h => nomatch h
  | fuel + 1, c :: cs, v, rest, h => by
    have hw := drop_width_lt c cs
    unfold consumeUntil at h
    simp only [] at h
    by_cases h1 : (decodeRune (c :: cs)).1 = endc
    · rw [if_pos h1] at h; cases h; exact hw
    · rw [if_neg h1] at h
      by_cases h2 : (decodeRune (c :: cs)).1 = 0x5C
      · rw [if_pos h2] at h
        generalize (c :: cs).drop (decodeRune (c :: cs)).2 = s1 at h hw
        cases s1 with
        | nil => simp at h
        | cons d ds =>
          obtain ⟨v', hp⟩ := map_snd_some h (fun _ => rfl)
          have h3 := consumeUntil_len endc fuel _ _ _ hp
          have h4 := drop_width_lt d ds
          omega
      · rw [if_neg h2] at h
        obtain ⟨v', hp⟩ := map_snd_some h (fun _ => rfl)
        have h3 := consumeUntil_len endc fuel _ _ _ hp
        omega

theorem rawBody_len : ∀ (fuel : Nat) (s v rest : Bytes), rawBody fuel s = some (v, rest) → rest.length < s.length
  | 0, _, _, _, h | _ + 1, [], _, _, h => nomatch h
  | fuel + 1, c :: cs, v, rest, h => by
    have hw := drop_width_lt c cs
    unfold rawBody at h
    simp only [] at h
    by_cases h1 : (decodeRune (c :: cs)).1 = 0x27
    · rw [if_pos h1] at h; cases h; exact hw
    · rw [if_neg h1] at h
      generalize (c :: cs).drop (decodeRune (c :: cs)).2 = s1 at h hw
      cases s1 with
      | nil => simp at h
      | cons d ds =>
        simp only [] at h
        split at h
        · obtain ⟨v', hp⟩ := map_snd_some h (fun _ => rfl)
          have h3 := rawBody_len fuel _ _ _ hp
          simp only [List.length_drop, List.length_cons] at *
          omega
        · obtain ⟨v', hp⟩ := map_snd_some h (fun _ => rfl)
          have h3 := rawBody_len fuel _ _ _ hp
          omega

def StepOK (total : Nat) (n : Nat) : Step → Prop
  | .tok t rest => rest.length < n ∧ t.pos ≤ total ∧ t.ty ≠ .eof
  | .skip rest => rest.length < n
  | .fail (.syntax off) => 0 ≤ off ∧ off ≤ total
  | .fail (.other _) => True
  | .crash _ => False

theorem lookupNat_mem {α} (k : Nat) (v : α) : ∀ l : List (Nat × α), lookupNat k l = some v → (k, v) ∈ l
  | [], h => nomatch h
  | (k', v') :: rest, h => by
    simp only [lookupNat] at h
    split at h
    · rename_i hk; cases h; subst hk; simp
    · exact List.mem_cons_of_mem _ (lookupNat_mem k v rest h)

theorem stepAt_ok {tb : Tables} (h : TablesSafe tb) (total : Nat) {n r : Nat} {cur rest : Bytes} {start : Nat}
    (hw : rest.length < n) (hn : n ≤ total) (hst : start ≤ total) : StepOK total n (stepAt tb total r cur rest start) := by
  -- no branch needs to know which test led to it
  have ite {p : Prop} [Decidable p] {a b : Step} (ha : StepOK total n a) (hb : StepOK total n b) :
      StepOK total n (if p then a else b) := by split <;> assumption
  have two_ok : ∀ (second : Nat) (matched single : TokType), matched ≠ .eof → single ≠ .eof →
      StepOK total n (two r rest start second matched single) := by
    intro second matched single hm hsg
    unfold two
    cases rest with
    | nil => exact ⟨hw, hst, hsg⟩
    | cons c' rest' => exact ite ⟨by simp only [List.length_cons] at hw; omega, hst, hm⟩ ⟨hw, hst, hsg⟩
  unfold stepAt
  refine ite ?_ ?_
  · obtain ⟨v, rest', hr, hl⟩ := scanIdent_ok h rest.length rest
    rw [hr]
    exact ⟨by omega, hst, by simp⟩
  cases hlk : lookupNat r tb.basic with
  | some ty => exact ⟨hw, hst, h.2 _ (lookupNat_mem r ty tb.basic hlk)⟩
  | none =>
  refine ite ?_ (ite ?_ (ite ?_ (ite ?_ (ite ?_ ?_))))
  · have := scanDigits_len rest
    exact ⟨by omega, hst, by simp⟩
  · -- `[`, then `[?`, `[]` or neither
    cases rest with
    | nil => exact ⟨hw, hst, by simp⟩
    | cons c' rest' =>
      simp only [List.length_cons] at hw
      split
      · rename_i heq; cases heq; exact ⟨by omega, hst, by simp⟩
      · rename_i heq; cases heq; exact ⟨by omega, hst, by simp⟩
      · exact ⟨by simp only [List.length_cons]; omega, hst, by simp⟩
  · rcases hc : consumeUntil 0x22 rest.length rest with _ | ⟨v, rest'⟩
    · exact ⟨by omega, by omega⟩
    · have := consumeUntil_len _ _ _ _ _ hc
      dsimp only []
      cases Json.unquoteString v with
      | none => trivial
      | some decoded => exact ⟨by omega, Nat.le_trans (Nat.sub_le _ _) (Nat.sub_le _ _), by simp⟩
  · rcases hc : rawBody rest.length rest with _ | ⟨v, rest'⟩
    · exact ⟨by omega, by omega⟩
    · have := rawBody_len _ _ _ _ hc
      exact ⟨by omega, Nat.sub_le _ _, by simp⟩
  · rcases hc : consumeUntil 0x60 rest.length rest with _ | ⟨v, rest'⟩
    · exact ⟨by omega, by omega⟩
    · have := consumeUntil_len _ _ _ _ _ hc
      exact ⟨by omega, Nat.sub_le _ _, by simp⟩
  -- the six two-character operators, white space, and the error
  iterate 6 refine ite (two_ok _ _ _ (by simp) (by simp)) ?_
  refine ite hw ?_
  show (0 : Int) ≤ _ ∧ _ ≤ (total : Int)
  omega

def TokensOK (total : Nat) (ts : List Token) : Prop :=
  (∃ pre, ts = pre ++ [⟨.eof, [], total⟩] ∧ ∀ t ∈ pre, t.ty ≠ .eof) ∧ ∀ t ∈ ts, t.pos ≤ total

theorem tokensOK_of_pre {total : Nat} {pre : List Token} (hne : ∀ t ∈ pre, t.ty ≠ .eof) (hpos : ∀ t ∈ pre, t.pos ≤ total) :
    TokensOK total (pre ++ [⟨.eof, [], total⟩]) := by
  refine ⟨⟨pre, rfl, hne⟩, fun t ht => ?_⟩
  rcases List.mem_append.mp ht with h | h
  · exact hpos t h
  · rw [List.mem_singleton.mp h]; exact Nat.le_refl _

def LexOK (total : Nat) : Res (List Token) → Prop
  | .ok ts => TokensOK total ts
  | .err (.syntax off) => 0 ≤ off ∧ off ≤ total
  | .err (.other _) => True
  | .panic _ => False

theorem loop_ok {tb : Tables} (h : TablesSafe tb) (total : Nat) : ∀ (fuel : Nat) (s : Bytes),
    s.length < fuel → s.length ≤ total → LexOK total (loop tb total fuel s)
  | 0, _, hf, _ => by omega
  | fuel + 1, [], _, _ => tokensOK_of_pre (pre := []) (fun _ h => nomatch h) (fun _ h => nomatch h)
  | fuel + 1, c :: cs, hf, hs => by
    have hst : StepOK total (c :: cs).length (step tb total (c :: cs)) :=
      stepAt_ok h total (drop_width_lt c cs) hs (Nat.sub_le _ _)
    unfold loop
    cases hstep : step tb total (c :: cs) with (rw [hstep] at hst)
    | tok t rest =>
      obtain ⟨hlt, htpos, htne⟩ := hst
      have ih := loop_ok h total fuel rest (by omega) (by omega)
      simp only []
      cases hl : loop tb total fuel rest with (rw [hl] at ih)
      | ok ts =>
        obtain ⟨⟨pre, hp, hne⟩, hpos⟩ := ih
        exact ⟨⟨t :: pre, by simp [hp], List.forall_mem_cons.mpr ⟨htne, hne⟩⟩,
          List.forall_mem_cons.mpr ⟨htpos, hpos⟩⟩
      | err _ | panic _ => exact ih
    | skip rest =>
      have hlt : rest.length < (c :: cs).length := hst
      exact loop_ok h total fuel rest (by omega) (by omega)
    | fail e => cases e <;> exact hst
    | crash p => exact hst.elim

/-- `tokenize` is safe on every byte string. -/
theorem tokenize_ok (tb : Tables) (h : TablesSafe tb) (expr : Bytes) : LexOK expr.length (tokenize tb expr) :=
  loop_ok h expr.length (expr.length + 1) expr (Nat.lt_succ_self _) (Nat.le_refl _)

end Jmes.Lexer
