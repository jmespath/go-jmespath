/-
  Proofs.SpecTable — the specification's table under the name the parser proofs use, its binding powers as a
  function of the token type, and that under it the nud of a bracket specifier is its led at the current node.
-/
import Proofs.ParserRel
import Spec.Tables
namespace Jmes.Parser

abbrev T : ParserTable := Spec.table

def specPow : TokType → Nat
  | .pipe => 1 | .or => 2 | .and => 3
  | .eq | .ne | .lt | .lte | .gt | .gte => 5
  | .flatten => 9 | .star => 20 | .filter => 21 | .dot => 40 | .not => 45
  | .lbrace => 50 | .lbracket => 55 | .lparen => 60
  | _ => 0

@[simp] theorem T_power (ty : TokType) : T.power ty = specPow ty := by cases ty <;> rfl

variable {N : Type} [NumOps N]

/-- A bracket specifier on its own is the bracket specifier applied to the current node: `nud` runs `led`'s code with `.identity`
    (and the table gives both the same levels). -/
theorem nud_of_led {t : Token} {p : PState} {o : Out N} (hty : t.ty = .lbracket ∨ t.ty = .flatten ∨ t.ty = .filter)
    (h : R T (.led t.ty .identity p) o) : R T (.nud t p) o := by
  rcases hty with e | e | e <;> rw [e] at h
  · cases h with
    | ledCmp hop _ => cases hop
    | ledIndex h1 h2 h3 h4 => exact R.nudIndex e h1 h2 h3 h4
    | ledBracketIdx h1 h2 h3 h4 => exact R.nudBracketIdx e h1 h2 h3 h4
    | ledBracketStar h1 h2 h3 h4 => exact R.nudBracketStar e h1 h2 h3 h4
  · cases h with
    | ledCmp hop _ => cases hop
    | ledFlatten h1 => exact R.nudFlatten e h1
  · cases h with
    | ledCmp hop _ => cases hop
    | ledFilter h1 => exact R.nudFilter e h1

end Jmes.Parser
