/-
  Proofs.ApiGlue — the API-level `compile` (a fresh Parser object's Parse) is
  the pure `Parser.parseWith`, so the lexer/parser theorems apply to it.
-/
import Jmes.Api
import Proofs.ParserSafe
import Proofs.TableTransfer
namespace Jmes.Api
variable {N : Type} [NumOps N]

theorem parse_eq_parseWith (cfg : Config) (p : ParserObj) (expr : Bytes) :
    ((p.parse cfg expr).2 : Res (Node N)) = Parser.parseWith cfg.lex cfg.tbl expr := by
  unfold ParserObj.parse Parser.parseWith Parser.parseTokens
  cases Lexer.tokenize cfg.lex expr with
  | ok toks =>
    simp only [Res.bind_ok]
    cases (Parser.parseExpression cfg.tbl (Parser.fuelFor toks.length) cfg.tbl.top ⟨[], toks⟩ : Res (Node N × Parser.PState)) with
    | ok r =>
      simp only [Res.bind_ok]
      cases r.2.cur with
      | ok ty =>
        simp only [Res.bind_ok]
        split <;> rfl
      | _ => rfl
    | _ => rfl
  | _ => rfl

theorem compile_eq_parseWith (cfg : Config) (expr : Bytes) :
    (compile cfg expr : Res (Node N)) = Parser.parseWith cfg.lex cfg.tbl expr :=
  parse_eq_parseWith cfg {} expr

theorem compile_ok (cfg : Config) (hlt : Lexer.TablesSafe cfg.lex) (hT : cfg.tbl.power .eof = 0) (expr : Bytes) :
    Parser.ROK expr.length (fun e => Interp.slicesOK e) (compile cfg expr : Res (Node N)) := by
  rw [compile_eq_parseWith]
  exact Parser.parseWith_ok _ hlt hT expr

theorem compile_of_tokens {cfg : Config} {tbl : ParserTable} (h : Parser.SameDecisions cfg.tbl tbl) {expr : Bytes} {toks : List Token}
    (htok : Lexer.tokenize cfg.lex expr = .ok toks) : (compile cfg expr : Res (Node N)) = Parser.parseTokens tbl toks := by
  rw [compile_eq_parseWith]
  unfold Parser.parseWith
  rw [htok]
  exact Parser.parseTokens_congr h toks

end Jmes.Api
