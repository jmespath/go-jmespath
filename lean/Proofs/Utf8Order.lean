/-
  Proofs.Utf8Order — strings compare by code point: bytewise lexicographic
  comparison of UTF-8 encoded strings (`Val.bytesLt`, Go's `<` on strings)
  coincides with lexicographic comparison of the code point sequences, for
  sequences of Unicode scalar values.
-/
import Proofs.Utf8
import Proofs.BytesLt
namespace Jmes.Utf8Order
open Jmes.Utf8 Jmes.Val

/-- Unicode scalar values: what a valid UTF-8 string can contain. -/
def Scalar (r : Nat) : Prop := r < 0xD800 ∨ (0xE000 ≤ r ∧ r ≤ 0x10FFFF)

def lexLt : List Nat → List Nat → Bool
  | [], [] => false
  | [], _ :: _ => true
  | _ :: _, [] => false
  | r :: rs, t :: ts => if r < t then true else if t < r then false else lexLt rs ts

theorem split6 (r : Nat) : ∃ p y, r = p * 64 + y ∧ y < 64 :=
  ⟨r / 64, r % 64, (Nat.div_add_mod' r 64).symm, Nat.mod_lt _ (by decide)⟩

theorem scalar_bytes (r : Nat) (hr : Scalar r) :
    (r < 0x80 ∧ (encodeRune r).map UInt8.toNat = [r]) ∨
    (0x80 ≤ r ∧ r < 0x800 ∧ ∃ x y, r = x * 64 + y ∧ x < 32 ∧ y < 64 ∧
      (encodeRune r).map UInt8.toNat = [0xC0 + x, 0x80 + y]) ∨
    (0x800 ≤ r ∧ r < 0x10000 ∧ ∃ x y z, r = (x * 64 + y) * 64 + z ∧ x < 16 ∧ y < 64 ∧ z < 64 ∧
      (encodeRune r).map UInt8.toNat = [0xE0 + x, 0x80 + y, 0x80 + z]) ∨
    (0x10000 ≤ r ∧ ∃ x y z w, r = ((x * 64 + y) * 64 + z) * 64 + w ∧ y < 64 ∧ z < 64 ∧ w < 64 ∧
      (encodeRune r).map UInt8.toNat = [0xF0 + x, 0x80 + y, 0x80 + z, 0x80 + w]) := by
  unfold Scalar at hr
  by_cases h1 : r < 0x80
  · exact .inl ⟨h1, enc1 r h1⟩
  by_cases h2 : r < 0x800
  · obtain ⟨x, y, rfl, hy⟩ := split6 r
    have hx : x < 32 := by omega
    exact .inr (.inl ⟨Nat.le_of_not_lt h1, h2, x, y, rfl, hx, hy, enc2 x y (by omega) hx hy⟩)
  by_cases h3 : r < 0x10000
  · obtain ⟨p, z, rfl, hz⟩ := split6 r
    obtain ⟨x, y, rfl, hy⟩ := split6 p
    have hx : x < 16 := by omega
    exact .inr (.inr (.inl ⟨Nat.le_of_not_lt h2, h3, x, y, z, rfl, hx, hy, hz,
      enc3 x y z hx hy hz (Nat.le_of_not_lt h2) (hr.imp_right fun h => h.1)⟩))
  · obtain ⟨p, w, rfl, hw⟩ := split6 r
    obtain ⟨p, z, rfl, hz⟩ := split6 p
    obtain ⟨x, y, rfl, hy⟩ := split6 p
    exact .inr (.inr (.inr ⟨Nat.le_of_not_lt h3, x, y, z, w, rfl, hy, hz, hw,
      enc4 x y z w hy hz hw (Nat.le_of_not_lt h3) (hr.elim (fun h => Nat.le_of_lt (Nat.lt_trans h (by decide))) fun h => h.2)⟩))

theorem encodeRune_cons (r : Nat) : ∃ c cs, encodeRune r = c :: cs := by
  -- every branch of the cascade is a list written out
  have ite {p : Prop} [Decidable p] {a b : Bytes} (ha : ∃ c cs, a = c :: cs) (hb : ∃ c cs, b = c :: cs) :
      ∃ c cs, (if p then a else b) = c :: cs := by split <;> assumption
  exact ite ⟨_, _, rfl⟩ (ite ⟨_, _, rfl⟩ (ite ⟨_, _, rfl⟩ (ite ⟨_, _, rfl⟩ ⟨_, _, rfl⟩)))

/-- `l`, `m` are the lists of byte values written for the numbers `p`, `q`. -/
structure KeepsOrder (p q : Nat) (l m : List Nat) : Prop where
  lt : p < q → ∀ x y, l ++ x < m ++ y
  eq : p = q → l = m

theorem KeepsOrder.lead (t p q : Nat) : KeepsOrder p q [t + p] [t + q] :=
  ⟨fun h _ _ => List.cons_lt_cons_iff.mpr (.inl (Nat.add_lt_add_left h t)), fun e => e ▸ rfl⟩

theorem KeepsOrder.cont {p q a b : Nat} {l m : List Nat} (k : KeepsOrder p q l m) (ha : a < 64) (hb : b < 64) :
    KeepsOrder (p * 64 + a) (q * 64 + b) (l ++ [0x80 + a]) (m ++ [0x80 + b]) where
  lt h x y := by
    rw [List.append_assoc, List.append_assoc]
    rcases (by omega : p < q ∨ p = q ∧ a < b) with hpq | ⟨e, hab⟩
    · exact k.lt hpq _ _
    · rw [k.eq e]
      exact List.append_left_lt (List.cons_lt_cons_iff.mpr (.inl (Nat.add_lt_add_left hab _)))
  eq e := by
    obtain ⟨rfl, rfl⟩ : p = q ∧ a = b := by omega
    rw [k.eq rfl]

theorem lead_lt {l L t b : Nat} {as bs : List Nat} (hl : l < L) (ht : L ≤ t) : l :: as < (t + b) :: bs :=
  List.cons_lt_cons_iff.mpr (.inl (Nat.lt_of_lt_of_le hl (Nat.le_trans ht (Nat.le_add_right t b))))

theorem not_lt_of_class {r t c c' : Nat} (ht : t < c) (hc : c ≤ c') (hr : c' ≤ r) : ¬ r < t :=
  Nat.not_lt.mpr (Nat.le_trans (Nat.le_of_lt ht) (Nat.le_trans hc hr))

/-- Between size classes the lead bytes decide, within a class the fields are compared from the top. -/
theorem encode_lt {r t : Nat} (hr : Scalar r) (ht : Scalar t) (h : r < t) {x y : List Nat} :
    (encodeRune r).map UInt8.toNat ++ x < (encodeRune t).map UInt8.toNat ++ y := by
  -- sixteen cases: `r` of 1, 2, 3, 4 bytes, and for each `t` of 1, 2, 3, 4 bytes; where `t` is the shorter,
  -- `r < t` is impossible
  rcases scalar_bytes r hr with ⟨ua, ea⟩ | ⟨la, ua, a0, a1, rfl, ha0, ha1, ea⟩ | ⟨la, ua, a0, a1, a2, rfl, ha0, ha1, ha2, ea⟩ |
      ⟨la, a0, a1, a2, a3, rfl, ha1, ha2, ha3, ea⟩ <;>
    rcases scalar_bytes t ht with ⟨ub, eb⟩ | ⟨lb, ub, b0, b1, rfl, hb0, hb1, eb⟩ | ⟨lb, ub, b0, b1, b2, rfl, hb0, hb1, hb2, eb⟩ |
      ⟨lb, b0, b1, b2, b3, rfl, hb1, hb2, hb3, eb⟩ <;>
    rw [ea, eb]
  · exact List.cons_lt_cons_iff.mpr (.inl h)
  · exact lead_lt ua (by decide)
  · exact lead_lt ua (by decide)
  · exact lead_lt ua (by decide)
  · exact absurd h (not_lt_of_class ub (by decide) la)
  · exact ((KeepsOrder.lead 0xC0 a0 b0).cont ha1 hb1).lt h x y
  · exact lead_lt (Nat.add_lt_add_left ha0 _) (by decide)
  · exact lead_lt (Nat.add_lt_add_left ha0 _) (by decide)
  · exact absurd h (not_lt_of_class ub (by decide) la)
  · exact absurd h (not_lt_of_class ub (by decide) la)
  · exact (((KeepsOrder.lead 0xE0 a0 b0).cont ha1 hb1).cont ha2 hb2).lt h x y
  · exact lead_lt (Nat.add_lt_add_left ha0 _) (by decide)
  · exact absurd h (not_lt_of_class ub (by decide) la)
  · exact absurd h (not_lt_of_class ub (by decide) la)
  · exact absurd h (not_lt_of_class ub (by decide) la)
  · exact ((((KeepsOrder.lead 0xF0 a0 b0).cont ha1 hb1).cont ha2 hb2).cont ha3 hb3).lt h x y

/-- **UTF-8 is order preserving and prefix free**: the encoding of a smaller
    scalar value is bytewise smaller, whatever follows either. -/
theorem encodeRune_lt {r t : Nat} (hr : Scalar r) (ht : Scalar t) (h : r < t) {x y : Bytes} :
    Jmes.Val.bytesLt (encodeRune r ++ x) (encodeRune t ++ y) = true := by
  rw [bytesLt_iff_lt]
  apply bytes_lt_of_toNat
  rw [List.map_append, List.map_append]
  exact encode_lt hr ht h

theorem encodeRunes_cons (r : Nat) (rs : List Nat) :
    encodeRunes (r :: rs) = encodeRune r ++ encodeRunes rs :=
  rfl

/-- **Strings compare by code point**: on sequences of Unicode scalar values,
    the bytewise order of the UTF-8 encodings is the lexicographic order of the
    code points. -/
theorem bytesLt_encodeRunes (rs ts : List Nat) (hr : ∀ r ∈ rs, Scalar r) (ht : ∀ t ∈ ts, Scalar t) :
    Jmes.Val.bytesLt (encodeRunes rs) (encodeRunes ts) = lexLt rs ts := by
  induction rs generalizing ts with
  | nil =>
    cases ts with
    | nil => rfl
    | cons t ts =>
      obtain ⟨c, cs, he⟩ := encodeRune_cons t
      rw [encodeRunes_cons, he]; rfl
  | cons r rs ih =>
    cases ts with
    | nil =>
      obtain ⟨c, cs, he⟩ := encodeRune_cons r
      rw [encodeRunes_cons, he]; rfl
    | cons t ts =>
      obtain ⟨sr, hrs⟩ := List.forall_mem_cons.mp hr
      obtain ⟨st, hts⟩ := List.forall_mem_cons.mp ht
      rw [encodeRunes_cons, encodeRunes_cons]
      simp only [lexLt]
      by_cases h1 : r < t
      · rw [if_pos h1]; exact encodeRune_lt sr st h1
      · by_cases h2 : t < r
        · rw [if_neg h1, if_pos h2]
          exact bytesLt_asymm _ _ (encodeRune_lt st sr h2)
        · have e : r = t := by omega
          subst e
          rw [if_neg h1, if_neg h1, bytesLt_append_left]
          exact ih ts hrs hts

/-- é (C3 A9) < 世 (E4 B8 96) -/
example : bytesLt (encodeRunes [0xE9]) (encodeRunes [0x4E16]) = true := by decide
/-- é (C3 A9) < U+1F600 (F0 9F 98 80) -/
example : bytesLt (encodeRunes [0xE9]) (encodeRunes [0x1F600]) = true := by decide
/-- 世 < U+1F600, and not the other way round -/
example : bytesLt (encodeRunes [0x4E16]) (encodeRunes [0x1F600]) = true := by decide
example : bytesLt (encodeRunes [0x1F600]) (encodeRunes [0x4E16]) = false := by decide
example : encodeRunes [0xE9, 0x4E16, 0x1F600] = [0xC3, 0xA9, 0xE4, 0xB8, 0x96, 0xF0, 0x9F, 0x98, 0x80] := by decide
/-- U+FFFD (EF BF BD) sorts below U+10000 (F0 90 80 80), as code points do
    (in UTF-16 code-unit order it would not) -/
example : bytesLt (encodeRunes [0x61, 0xFFFD]) (encodeRunes [0x61, 0x10000]) = true := by decide
example : lexLt [0x61, 0xFFFD] [0x61, 0x10000] = true := by decide
example : bytesLt (encodeRunes [0xE9, 0x4E16]) (encodeRunes [0xE9, 0x1F600]) = lexLt [0xE9, 0x4E16] [0xE9, 0x1F600] :=
  bytesLt_encodeRunes _ _ (by simp [Scalar]) (by simp [Scalar])

end Jmes.Utf8Order
