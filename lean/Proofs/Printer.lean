/-
  Proofs.Printer — the parser (with the specification's table) inverts the
  precedence-aware printer `Spec.ppE`, projections and explicit parentheses
  included.  Proved on the relational description `R`; `parseTokens_ok_of_R`
  turns it into a statement about `parseTokens`.

  Every printed form is a first token and what `nud` reads after it
  (`expr_of_nud`), or a left operand, an operator token and what `led` reads
  after it (`expr_of_led`); all a form asks of its surroundings is the power
  of the next token (`Next`).
-/
import Proofs.ParserSafe
import Proofs.SpecTable
import Proofs.Grammar
import Spec.Printer
import Spec.Grammar
import Spec.Tables
namespace Jmes.Parser
open Jmes.Spec
variable {N : Type} [NumOps N]

def wfNum (o : Option (Bytes × Int)) : Prop :=
  match o with
  | some (t, i) => atoi t = some i
  | none => True

def wfSlice (s : SliceTxt) : Prop := wfNum s.a ∧ wfNum s.b ∧ wfNum s.c

mutual
/-- Side conditions on the token texts and on the places where the grammar
    restricts what may stand: a literal's text decodes to its value, digits
    denote their integer, a dot is followed by an identifier-headed expression,
    a list or a hash, a projection's right-hand side starts the way it must. -/
def wf : PE N → Prop
  | .lit t v => (Json.decode t : Option (Val N)) = some v
  | .idx0 txt i => atoi txt = some i
  | .idx l txt i => atoi txt = some i ∧ wf l
  | .sub l r => dotOK 40 false r = true ∧ wf l ∧ wf r
  | .not e => wf e
  | .bin _ l r => wf l ∧ wf r
  | .call _ args => wfArgs args
  | .list x xs => first x ≠ .star ∧ wf x ∧ wfList xs
  | .hash _ _ v kvs => wf v ∧ wfKVs kvs
  | .paren e => wf e
  | .star0 r => wfRhs 20 r
  | .dstar l r => wf l ∧ wfRhs 20 r
  | .bstar0 r => wfRhs 20 r
  | .bstar l r => wf l ∧ wfRhs 20 r
  | .flat0 r => wfRhs 9 r
  | .flat l r => wf l ∧ wfRhs 9 r
  | .slice0 s r => wfSlice s ∧ wfRhs 20 r
  | .slice l s r => wfSlice s ∧ wf l ∧ wfRhs 20 r
  | .filt0 c r => wf c ∧ wfRhs 21 r
  | .filt l c r => wf l ∧ wf c ∧ wfRhs 21 r
  | _ => True
def wfRhs : Nat → Rhs N → Prop
  | _, .none => True
  | bp, .dot e => dotOK bp true e = true ∧ wf e
  | bp, .br e => brOK bp e = true ∧ wf e
def wfList : List (PE N) → Prop
  | [] => True
  | x :: xs => wf x ∧ wfList xs
def wfKVs : List (Bool × Bytes × PE N) → Prop
  | [] => True
  | (_, _, v) :: rest => wf v ∧ wfKVs rest
def wfArgs : List (Bool × PE N) → Prop
  | [] => True
  | (_, e) :: rest => wf e ∧ wfArgs rest
end

def Next (m : Nat) (rest : List Token) : Prop := ∃ t rest', rest = t :: rest' ∧ specPow t.ty ≤ m

theorem Next.of_le {t : Token} {m : Nat} (h : specPow t.ty ≤ m) (rest : List Token) : Next m (t :: rest) :=
  ⟨t, rest, rfl, h⟩

theorem Next.mono {m m' : Nat} {rest : List Token} (h : Next m rest) (hm : m ≤ m') : Next m' rest := by
  obtain ⟨t, rest', e, ht⟩ := h
  exact ⟨t, rest', e, Nat.le_trans ht hm⟩

theorem Next.min_right {a b : Nat} {rest : List Token} (h : Next (min a b) rest) : Next b rest :=
  h.mono (Nat.min_le_right _ _)

theorem Next.stop {k : Nat} {rest : List Token} (h : Next k rest) (n : Node N) (b : List Token) :
    R T (.loop k n ⟨b, rest⟩) (.node n ⟨b, rest⟩) := by
  obtain ⟨t, rest', rfl, ht⟩ := h
  exact R.stop rfl (by rw [T_power]; omega)

/-- `Next e.rp`, by definition. -/
def Follow (e : PE N) (rest : List Token) : Prop := ∃ t rest', rest = t :: rest' ∧ specPow t.ty ≤ e.rp

/-- The statement proved for every expression: parsing the printed tokens at a
    level below the expression's own continues the Pratt loop with the
    expression's AST as the left operand. -/
def GoodE (e : PE N) : Prop :=
  wf e → ∀ (k : Nat) (bef rest : List Token) (o : Out N), k < e.level → Follow e rest →
    R T (.loop k (node e) ⟨(ppE e).reverse ++ bef, rest⟩) o → R T (.expr k ⟨bef, ppE e ++ rest⟩) o

def GoodList : List (PE N) → Prop
  | [] => True
  | x :: xs => GoodE x ∧ GoodList xs
def GoodKVs : List (Bool × Bytes × PE N) → Prop
  | [] => True
  | (_, _, v) :: rest => GoodE v ∧ GoodKVs rest
def GoodArgs : List (Bool × PE N) → Prop
  | [] => True
  | (_, e) :: rest => GoodE e ∧ GoodArgs rest

def GoodDot (e : PE N) : Prop :=
  wf e → ∀ (bp : Nat) (allowStar : Bool), dotOK bp allowStar e = true → ∀ (bef rest : List Token),
    Next (if e.isListOrHash then 59 else min bp e.rp) rest →
    R T (.dot bp ⟨bef, ppE e ++ rest⟩) (.node (node e) ⟨(ppE e).reverse ++ bef, rest⟩)

/-- `Next (r.rp bp)`, by definition. -/
def FollowRhs (r : Rhs N) (bp : Nat) (rest : List Token) : Prop := ∃ t rest', rest = t :: rest' ∧ specPow t.ty ≤ r.rp bp

/-- The right-hand side of a projection, read by parseProjectionRHS at level `bp`. -/
def GoodRhs (r : Rhs N) : Prop :=
  ∀ bp, wfRhs bp r → ∀ (bef rest : List Token), FollowRhs r bp rest →
    R T (.prhs bp ⟨bef, ppRhs r ++ rest⟩) (.node (nodeRhs r) ⟨(ppRhs r).reverse ++ bef, rest⟩)

/-! The levels as a table, for reference; the proofs below get them by `rfl`. -/
section Levels
omit [NumOps N]
variable (l r e c : PE N) (rh : Rhs N) (op : BinOp) (s : SliceTxt) (t : Bytes) (i : Int)
theorem lv_ident : (PE.ident t : PE N).level = 100 := rfl
theorem lv_quoted : (PE.quoted t : PE N).level = 100 := rfl
theorem lv_raw : (PE.raw t : PE N).level = 100 := rfl
theorem lv_lit (v : Val N) : (PE.lit t v).level = 100 := rfl
theorem lv_current : (PE.current : PE N).level = 100 := rfl
theorem lv_idx0 : (PE.idx0 t i : PE N).level = 100 := rfl
theorem lv_idx : (PE.idx l t i).level = 55 := rfl
theorem lv_sub : (PE.sub l r).level = 40 := rfl
theorem lv_not : (PE.not e).level = 45 := rfl
theorem lv_bin : (PE.bin op l r).level = op.pow := rfl
theorem lv_call (a : List (Bool × PE N)) : (PE.call t a).level = 60 := rfl
theorem lv_list (xs : List (PE N)) : (PE.list e xs).level = 100 := rfl
theorem lv_hash (q : Bool) (kvs : List (Bool × Bytes × PE N)) : (PE.hash q t e kvs).level = 100 := rfl
theorem lv_paren : (PE.paren e).level = 100 := rfl
theorem lv_star0 : (PE.star0 rh).level = 100 := rfl
theorem lv_dstar : (PE.dstar l rh).level = 40 := rfl
theorem lv_bstar0 : (PE.bstar0 rh).level = 100 := rfl
theorem lv_bstar : (PE.bstar l rh).level = 55 := rfl
theorem lv_flat0 : (PE.flat0 rh).level = 100 := rfl
theorem lv_flat : (PE.flat l rh).level = 9 := rfl
theorem lv_slice0 : (PE.slice0 s rh).level = 100 := rfl
theorem lv_slice : (PE.slice l s rh).level = 55 := rfl
theorem lv_filt0 : (PE.filt0 c rh).level = 100 := rfl
theorem lv_filt : (PE.filt l c rh).level = 21 := rfl
end Levels

theorem pow_bounds (op : BinOp) : op.pow ≤ 5 ∧ 0 < op.pow := by cases op <;> simp [BinOp.pow]

/-! Every clause of `PE.rp` is a constant ≤ 59 or `min` of the form's own level and something (the `if`s of `.sub`, `.not`
    and `.bin` pick the level itself), and every level is 100, a constant of the table or `op.pow ≥ 1`: `rp_le` and
    `level_pos` are sweeps over that table. -/

theorem min_le_min59 {a b x : Nat} (ha : a ≤ 59) (hb : a ≤ b) : min a x ≤ min 59 b :=
  Nat.le_trans (Nat.min_le_left a x) (Nat.le_min.mpr ⟨ha, hb⟩)

theorem ite_min_le_min59 {c : Prop} [Decidable c] {p x : Nat} (hp : p ≤ 59) : (if c then p else min p x) ≤ min 59 p := by
  split
  · exact Nat.le_min.mpr ⟨hp, Nat.le_refl p⟩
  · exact min_le_min59 hp (Nat.le_refl p)

omit [NumOps N] in
theorem rp_le (e : PE N) : e.rp ≤ min 59 e.level := by
  cases e with
  | bin op => exact ite_min_le_min59 (Nat.le_trans (pow_bounds op).1 (by decide))
  | sub | not => exact ite_min_le_min59 (by decide)
  | star0 | dstar | bstar0 | bstar | flat0 | flat | slice0 | slice | filt0 | filt =>
    exact min_le_min59 (by decide) (Nat.le_of_ble_eq_true rfl)
  | _ => exact Nat.le_of_ble_eq_true rfl

omit [NumOps N] in
theorem rp_le_59 (e : PE N) : e.rp ≤ 59 := Nat.le_trans (rp_le e) (Nat.min_le_left _ _)

omit [NumOps N] in
theorem level_pos (e : PE N) : 0 < e.level := by
  cases e with
  | bin op => exact (pow_bounds op).2
  | _ => exact Nat.zero_lt_succ _

@[simp] theorem tk_ty (ty : TokType) (v : Bytes) : (tk ty v).ty = ty := rfl
@[simp] theorem tk_value (ty : TokType) (v : Bytes) : (tk ty v).value = v := rfl

/-- how `ppE` writes an operand -/
abbrev wrap (c : Prop) [Decidable c] (e : PE N) : List Token := if c then parens (ppE e) else ppE e

theorem expr_of_nud {tok : Token} {tail : List Token} {n : Node N} {k : Nat} {bef rest : List Token} {o : Out N}
    (hn : R T (.nud tok ⟨tok :: bef, tail ++ rest⟩) (.node n ⟨tail.reverse ++ tok :: bef, rest⟩))
    (hloop : R T (.loop k n ⟨(tok :: tail).reverse ++ bef, rest⟩) o) :
    R T (.expr k ⟨bef, (tok :: tail) ++ rest⟩) o := by
  refine R.expr rfl hn ?_
  simpa using hloop

section
variable {e : PE N} (ge : GoodE e) (hw : wf e)
include ge hw

/-- `GoodE` in direct form: an expression read to its end at level `k`. -/
theorem GoodE.reads {k : Nat} (hk : k < e.level) (bef : List Token) {rest : List Token} (hf : Next (min k e.rp) rest) :
    R T (.expr k ⟨bef, ppE e ++ rest⟩) (.node (node e) ⟨(ppE e).reverse ++ bef, rest⟩) :=
  ge hw k bef rest _ hk hf.min_right ((hf.mono (Nat.min_le_left _ _)).stop _ _)

theorem GoodE.elem (bef : List Token) (t : Token) (rest' : List Token) (ht : specPow t.ty = 0 := by rfl) :
    R T (.expr 0 ⟨bef, ppE e ++ t :: rest'⟩) (.node (node e) ⟨(ppE e).reverse ++ bef, t :: rest'⟩) :=
  ge.reads hw (level_pos e) bef (Next.of_le (by omega) rest')

theorem GoodE.nud_paren (bef rest : List Token) :
    R T (.nud (tk .lparen) ⟨tk .lparen :: bef, (ppE e ++ [tk .rparen]) ++ rest⟩)
      (.node (node e) ⟨(ppE e ++ [tk .rparen]).reverse ++ tk .lparen :: bef, rest⟩) := by
  have := R.nudParen (tok := tk .lparen) rfl (ge.elem hw (tk .lparen :: bef) (tk .rparen) rest) rfl rfl
  simpa [PState.advance] using this

/-- An operand as `wrap` writes it, followed by the loop: in parentheses it
    may be anything, bare it needs `k < e.level` and `Follow`. -/
theorem wrap_loop (c : Prop) [Decidable c] {k : Nat} {bef rest : List Token}
    {o : Out N} (hc : ¬ c → k < e.level ∧ Follow e rest)
    (hloop : R T (.loop k (node e) ⟨(wrap c e).reverse ++ bef, rest⟩) o) :
    R T (.expr k ⟨bef, wrap c e ++ rest⟩) o := by
  unfold wrap at hloop ⊢
  by_cases h : c
  · rw [if_pos h] at hloop ⊢
    exact expr_of_nud (ge.nud_paren hw bef rest) hloop
  · rw [if_neg h] at hloop ⊢
    exact ge hw k bef rest o (hc h).1 (hc h).2 hloop

/-- The only place where the operator's power is used. -/
theorem expr_of_led {P k : Nat} (hk : k < P) {tok : Token}
    (hP : specPow tok.ty = P) {tail : List Token} {n : Node N} {bef rest : List Token} {o : Out N}
    (hled : ∀ b, R T (.led tok.ty (node e) ⟨tok :: b, tail ++ rest⟩) (.node n ⟨tail.reverse ++ tok :: b, rest⟩))
    (hloop : R T (.loop k n ⟨(wrap (e.rp < P) e ++ tok :: tail).reverse ++ bef, rest⟩) o) :
    R T (.expr k ⟨bef, (wrap (e.rp < P) e ++ tok :: tail) ++ rest⟩) o := by
  rw [List.append_assoc]
  refine wrap_loop ge hw _ (fun h => ?_) ?_
  · have : e.rp ≤ e.level := Nat.le_trans (rp_le e) (Nat.min_le_right _ _)
    exact ⟨by omega, Next.of_le (by omega) _⟩
  · refine R.step rfl (by rw [T_power]; omega) (hled _) ?_
    simpa using hloop

/-- The operand of `!` and the right operand of a binary operator: `hf` is what `rp` gives for `.not` and `.bin`. -/
theorem right_operand (P : Nat) (bef : List Token) {rest : List Token}
    (hf : Next (if e.level ≤ P then P else min P e.rp) rest) :
    R T (.expr P ⟨bef, wrap (e.level ≤ P) e ++ rest⟩)
      (.node (node e) ⟨(wrap (e.level ≤ P) e).reverse ++ bef, rest⟩) := by
  refine wrap_loop ge hw _ (fun h => ?_) ?_
  · rw [if_neg h] at hf
    exact ⟨by omega, hf.min_right⟩
  · refine Next.stop (hf.mono ?_) _ _
    split <;> omega

end

def HeadIs (ty : TokType) (l : List Token) : Prop := ∃ t ts, l = t :: ts ∧ t.ty = ty
theorem headIs_cons (t : Token) (ts : List Token) : HeadIs t.ty (t :: ts) := ⟨t, ts, rfl, rfl⟩
theorem headIs_append {ty : TokType} {l : List Token} (r : List Token) (h : HeadIs ty l) : HeadIs ty (l ++ r) := by
  obtain ⟨t, ts, rfl, ht⟩ := h; exact ⟨t, ts ++ r, rfl, ht⟩

section
omit [NumOps N]

theorem headIs_wrap {P : Nat} {l : PE N} {r : List Token} (ih : HeadIs (first l) (ppE l)) :
    HeadIs (if l.rp < P then TokType.lparen else first l) (wrap (l.rp < P) l ++ r) := by
  unfold wrap; split
  · exact headIs_cons (tk .lparen) _
  · exact headIs_append _ ih

theorem ppE_first : (e : PE N) → HeadIs (first e) (ppE e) := fun e => by
  cases e with
  | idx l _ _ | sub l _ | bin _ l _ | dstar l _ | bstar l _ | flat l _ => exact headIs_wrap (ppE_first l)
  | slice l _ _ | filt l _ _ => exact headIs_append _ (headIs_wrap (ppE_first l))
  | _ => exact headIs_cons (tk _ _) _

theorem ppE_head (e : PE N) (rest : List Token) : ∃ t ts, ppE e ++ rest = t :: ts ∧ t.ty = first e :=
  headIs_append rest (ppE_first e)

theorem startTy_ite {c : Prop} [Decidable c] {a b : TokType} (ha : startTy a = true) (hb : startTy b = true) :
    startTy (if c then a else b) = true := by
  split <;> assumption

theorem first_start : (e : PE N) → startTy (first e) = true := fun e => by
  cases e with
  | idx l _ _ | sub l _ | bin _ l _ | dstar l _ | bstar l _ | flat l _ | slice l _ _ | filt l _ _ =>
    exact startTy_ite rfl (first_start l)
  | _ => rfl

theorem head_ne {e : PE N} {t : Token} (hty : t.ty = first e) {ty : TokType} (h : startTy ty = false := by rfl) :
    t.ty ≠ ty :=
  startTy_ne (hty ▸ first_start e) h

theorem slice_head (s : SliceTxt) (rest : List Token) :
    ∃ t ts, s.toks ++ rest = t :: ts ∧ (t.ty = .number ∨ t.ty = .colon) := by
  obtain ⟨_ | ⟨ta, ia⟩, b, c⟩ := s
  · exact ⟨tk .colon, _, rfl, Or.inr rfl⟩
  · exact ⟨tk .number ta, _, rfl, Or.inl rfl⟩

end

theorem specPow_op (op : BinOp) : specPow (tk op.tok).ty = op.pow := by
  cases op with
  | cmp c => cases c <;> rfl
  | _ => rfl

theorem led_bin (op : BinOp) {l r : Node N} {p p1 : PState} (h : R T (.expr op.pow p) (.node r p1)) :
    R T (.led (tk op.tok).ty l p) (.node (op.node l r) p1) := by
  cases op with
  | pipe => exact R.ledPipe h
  | or => exact R.ledOr h
  | and => exact R.ledAnd h
  | cmp c => cases c <;> exact R.ledCmp rfl h

omit [NumOps N] in
theorem first_ne_star {bp : Nat} {e : PE N} (h : dotOK bp false e = true) : first e ≠ .star := by
  simp only [dotOK, Bool.or_eq_true, Bool.and_eq_true, beq_iff_eq, Bool.false_eq_true, false_and, or_false] at h
  rcases h with h | ⟨h | h, _⟩
  · cases e with
    | list | hash => nofun
    | _ => cases h
  · rw [h]; simp
  · rw [h]; simp

theorem ty_comma : specPow (tk .comma).ty = 0 := rfl

/-! The list printers and their ASTs, one layer each, by computation.  (Naming `ppTail` … `nodeArgs` to `simp` instead would
    have Lean prove the unfolding equations of the mutual definitions first.) -/
section
omit [NumOps N]
variable (x e : PE N) (xs : List (PE N)) (q b : Bool) (k : Bytes) (kvs : List (Bool × Bytes × PE N)) (a : Bool × PE N)
  (as : List (Bool × PE N))
theorem ppRhs_dot : ppRhs (.dot e) = tk .dot :: ppE e := rfl
theorem ppTail_nil : ppTail ([] : List (PE N)) = [] := rfl
theorem ppTail_cons : ppTail (x :: xs) = tk .comma :: ppE x ++ ppTail xs := rfl
theorem nodeList_nil : nodeList ([] : List (PE N)) = [] := rfl
theorem nodeList_cons : nodeList (x :: xs) = node x :: nodeList xs := rfl
theorem ppKVs_nil : ppKVs ([] : List (Bool × Bytes × PE N)) = [] := rfl
theorem ppKVs_cons : ppKVs ((q, k, e) :: kvs) = tk .comma :: keyTok q k :: tk .colon :: ppE e ++ ppKVs kvs := rfl
theorem nodeKVs_nil : nodeKVs ([] : List (Bool × Bytes × PE N)) = [] := rfl
theorem nodeKVs_cons : nodeKVs ((q, k, e) :: kvs) = (k, node e) :: nodeKVs kvs := rfl
theorem ppArgs_one : ppArgs [(b, e)] = (if b then [tk .expref] else []) ++ ppE e := rfl
theorem ppArgs_cons : ppArgs ((b, e) :: a :: as) = (if b then [tk .expref] else []) ++ ppE e ++ tk .comma :: ppArgs (a :: as) := rfl
theorem nodeArgs_nil : nodeArgs ([] : List (Bool × PE N)) = [] := rfl
theorem nodeArgs_cons : nodeArgs ((b, e) :: as) = (b, node e) :: nodeArgs as := rfl
end

theorem msl_list {x : PE N} {xs : List (PE N)} (gx : GoodE x) (gl : GoodList xs) (hx : wf x) (hl : wfList xs)
    (acc : List (Node N)) (bef rest : List Token) :
    R T (.msl ⟨bef, ppE x ++ (ppTail xs ++ tk .rbracket :: rest)⟩ acc)
      (.node (.msList (acc.reverse ++ node x :: nodeList xs))
        ⟨tk .rbracket :: ((ppTail xs).reverse ++ ((ppE x).reverse ++ bef)), rest⟩) := by
  induction xs generalizing x acc bef with
  | nil =>
    have := R.mslLast (acc := acc) (gx.elem hx bef (tk .rbracket) rest) rfl rfl
    simpa [ppTail_nil, nodeList_nil, PState.advance] using this
  | cons y ys ih =>
    have := R.mslMore (gx.elem hx bef (tk .comma) (ppE y ++ (ppTail ys ++ tk .rbracket :: rest))) rfl rfl
      (ih gl.1 gl.2 hl.1 hl.2 (node x :: acc) (tk .comma :: ((ppE x).reverse ++ bef)))
    simpa [ppTail_cons, nodeList_cons, List.reverse_append] using this

theorem keyTok_ty (q : Bool) (k : Bytes) : (keyTok q k).ty = .uident ∨ (keyTok q k).ty = .qident := by
  cases q <;> simp [keyTok]

@[simp] theorem keyTok_value (q : Bool) (k : Bytes) : (keyTok q k).value = k := by
  cases q <;> simp [keyTok]

theorem msh_list (q : Bool) (k : Bytes) {v : PE N} {kvs : List (Bool × Bytes × PE N)} (gv : GoodE v) (gl : GoodKVs kvs)
    (hv : wf v) (hl : wfKVs kvs) (acc : List (Bytes × Node N)) (bef rest : List Token) :
    R T (.msh ⟨bef, keyTok q k :: tk .colon :: (ppE v ++ (ppKVs kvs ++ tk .rbrace :: rest))⟩ acc)
      (.node (.msHash (acc.reverse ++ (k, node v) :: nodeKVs kvs))
        ⟨tk .rbrace :: ((ppKVs kvs).reverse ++ ((ppE v).reverse ++ (tk .colon :: keyTok q k :: bef))), rest⟩) := by
  induction kvs generalizing q k v acc bef with
  | nil =>
    have := R.mshLast (acc := acc) (p := ⟨bef, keyTok q k :: tk .colon :: (ppE v ++ tk .rbrace :: rest)⟩) rfl
      (keyTok_ty q k) rfl (gv.elem hv (tk .colon :: keyTok q k :: bef) (tk .rbrace) rest) rfl rfl
    simpa [ppKVs_nil, nodeKVs_nil, PState.advance] using this
  | cons kv more ih =>
    obtain ⟨q', k', v'⟩ := kv
    have := R.mshMore
      (p := ⟨bef, keyTok q k :: tk .colon :: (ppE v ++ tk .comma :: keyTok q' k' :: tk .colon :: (ppE v' ++ (ppKVs more ++ tk .rbrace :: rest)))⟩)
      rfl (keyTok_ty q k) rfl (gv.elem hv (tk .colon :: keyTok q k :: bef) (tk .comma) _) rfl rfl
      (by rw [keyTok_value]
          exact ih q' k' gl.1 gl.2 hl.1 hl.2 ((k, node v) :: acc)
            (tk .comma :: ((ppE v).reverse ++ (tk .colon :: keyTok q k :: bef))))
    simpa [ppKVs_cons, nodeKVs_cons, List.reverse_append] using this

omit [NumOps N] in
theorem ppArgs_start (a : Bool × PE N) (as : List (Bool × PE N)) (rest : List Token) :
    ∃ t ts, ppArgs (a :: as) ++ rest = t :: ts ∧ t.ty ≠ .rparen := by
  obtain ⟨b, e⟩ := a
  obtain ⟨tl, e1⟩ : ∃ tl, ppArgs ((b, e) :: as) ++ rest = (if b then [tk .expref] else []) ++ (ppE e ++ tl) := by
    cases as with
    | nil => exact ⟨rest, by simp [ppArgs_one]⟩
    | cons a as => exact ⟨tk .comma :: (ppArgs (a :: as) ++ rest), by simp [ppArgs_cons]⟩
  rw [e1]
  cases b with
  | true => exact ⟨tk .expref, _, rfl, by simp⟩
  | false =>
    obtain ⟨t, ts, h, ht⟩ := ppE_head e tl
    exact ⟨t, ts, h, head_ne ht⟩

theorem args_list {a : Bool × PE N} {as : List (Bool × PE N)} (ge : GoodE a.2) (gl : GoodArgs as) (hw : wf a.2)
    (hl : wfArgs as) (bef rest : List Token) :
    R T (.args ⟨bef, ppArgs (a :: as) ++ tk .rparen :: rest⟩)
      (.args (nodeArgs (a :: as)) ⟨(ppArgs (a :: as)).reverse ++ bef, tk .rparen :: rest⟩) := by
  induction as generalizing a bef with
  | nil =>
    obtain ⟨b, e⟩ := a
    cases b with
    | true =>
      have := R.argRefLast (p := ⟨bef, tk .expref :: (ppE e ++ tk .rparen :: rest)⟩) rfl rfl
        (ge.elem hw (tk .expref :: bef) _ _) rfl rfl
      simpa [ppArgs_one, nodeArgs_cons, nodeArgs_nil] using this
    | false =>
      obtain ⟨t0, ts0, h0, hty⟩ := ppE_head e (tk .rparen :: rest)
      have := R.argPlainLast h0 (head_ne hty) (ge.elem hw bef _ _) rfl rfl
      simpa [ppArgs_one, nodeArgs_cons, nodeArgs_nil] using this
  | cons a2 as ih =>
    obtain ⟨b, e⟩ := a
    obtain ⟨t2, rest2, h2, hn2⟩ := ppArgs_start a2 as (tk .rparen :: rest)
    have ih := ih gl.1 gl.2 hl.1 hl.2
    cases b with
    | true =>
      have := R.argRefMore (p := ⟨bef, tk .expref :: (ppE e ++ tk .comma :: (ppArgs (a2 :: as) ++ tk .rparen :: rest))⟩) rfl rfl
        (ge.elem hw (tk .expref :: bef) _ _) rfl rfl h2 hn2 (ih _)
      simpa [ppArgs_cons, nodeArgs_cons, List.reverse_append] using this
    | false =>
      obtain ⟨t0, ts0, h0, hty⟩ := ppE_head e (tk .comma :: (ppArgs (a2 :: as) ++ tk .rparen :: rest))
      have := R.argPlainMore h0 (head_ne hty) (ge.elem hw bef _ _) rfl rfl h2 hn2 (ih _)
      simpa [ppArgs_cons, nodeArgs_cons, List.reverse_append] using this

/-- What `nud` and the right-hand side of a dot both call after `[`. -/
theorem list_body {x : PE N} {xs : List (PE N)} (gx : GoodE x) (gl : GoodList xs) (hw : wf (.list x xs))
    (bef rest : List Token) :
    R T (.msl ⟨tk .lbracket :: bef, ppE x ++ ppTail xs ++ [tk .rbracket] ++ rest⟩ [])
      (.node (.msList (node x :: nodeList xs)) ⟨(tk .lbracket :: ppE x ++ ppTail xs ++ [tk .rbracket]).reverse ++ bef, rest⟩) := by
  simpa [List.reverse_append] using msl_list gx gl hw.2.1 hw.2.2 [] (tk .lbracket :: bef) rest

theorem hash_body (q : Bool) (k : Bytes) {v : PE N} {kvs : List (Bool × Bytes × PE N)} (gv : GoodE v) (gl : GoodKVs kvs)
    (hw : wf (.hash q k v kvs)) (bef rest : List Token) :
    R T (.msh ⟨tk .lbrace :: bef, keyTok q k :: tk .colon :: ppE v ++ ppKVs kvs ++ [tk .rbrace] ++ rest⟩ [])
      (.node (.msHash ((k, node v) :: nodeKVs kvs))
        ⟨(tk .lbrace :: keyTok q k :: tk .colon :: ppE v ++ ppKVs kvs ++ [tk .rbrace]).reverse ++ bef, rest⟩) := by
  simpa [List.reverse_append] using msh_list q k gv gl hw.1 hw.2 [] (tk .lbrace :: bef) rest

theorem optVal_numTok {o : Option (Bytes × Int)} (h : wfNum o) : OptVal (numTok o) (o.map (·.2)) := by
  cases o with
  | none => exact .inl ⟨rfl, rfl⟩
  | some ti => exact .inr ⟨tk .number ti.1, ti.2, rfl, rfl, h, rfl⟩

omit [NumOps N] in
theorem parseIndex_slice (s : SliceTxt) (hw : wfSlice s) (bef rest : List Token) :
    parseIndexExpression (N := N) ⟨bef, s.toks ++ tk .rbracket :: rest⟩ =
      .ok (s.node, ⟨tk .rbracket :: (s.toks.reverse ++ bef), rest⟩) := by
  obtain ⟨ha, hb, hc⟩ := hw
  obtain ⟨a, b, _ | ⟨tc, ic⟩⟩ := s
  · simpa [SliceTxt.toks, SliceTxt.node, List.reverse_append] using
      parseIndex_of_parts (N := N) (optVal_numTok ha) (optVal_numTok hb) (.inl ⟨rfl, rfl⟩) (c1 := tk .colon) (r := tk .rbracket)
        rfl rfl bef rest
  · simpa [SliceTxt.toks, SliceTxt.node, List.reverse_append] using
      parseIndex_of_parts (N := N) (c := [tk .colon, tk .number tc]) (optVal_numTok ha) (optVal_numTok hb)
        (.inr ⟨_, _, rfl, rfl, optVal_numTok (o := some (tc, ic)) hc⟩) (c1 := tk .colon) (r := tk .rbracket) rfl rfl bef rest

omit [NumOps N] in
/-- Read `∃ t ts, (… ∧ …) ∨ ∃ ts, …`: in the second alternative the outer `t`, `ts` carry nothing. -/
theorem ppRhs_head (r : Rhs N) (hne : ppRhs r ≠ []) : ∃ t ts, ppRhs r = t :: ts ∧ startTy t.ty = true ∨ ∃ ts, ppRhs r = tk .dot :: ts := by
  cases r with
  | none => exact absurd rfl hne
  | dot e => exact ⟨tk .dot, [], Or.inr ⟨ppE e, rfl⟩⟩
  | br e =>
    obtain ⟨t, ts, h, ht⟩ := ppE_first e
    exact ⟨t, ts, Or.inl ⟨h, ht ▸ first_start e⟩⟩

/-- `[a:b:c]` and its right-hand side after any left operand; on its own it is this at `.identity` (`nud_of_led`). -/
theorem led_slice {r : Rhs N} (s : SliceTxt) (gr : GoodRhs r) (hws : wfSlice s) (hwr : wfRhs 20 r) (n : Node N)
    (b : List Token) {rest : List Token} (hf : FollowRhs r 20 rest) :
    R T (.led (tk .lbracket).ty n ⟨tk .lbracket :: b, (s.toks ++ tk .rbracket :: ppRhs r) ++ rest⟩)
      (.node (.proj (.indexExpr n s.node) (nodeRhs r)) ⟨(s.toks ++ tk .rbracket :: ppRhs r).reverse ++ tk .lbracket :: b, rest⟩) := by
  obtain ⟨t0, ts0, h0, hnc⟩ := slice_head s (tk .rbracket :: (ppRhs r ++ rest))
  have := R.ledBracketIdx (n := n) (p := ⟨tk .lbracket :: b, s.toks ++ tk .rbracket :: (ppRhs r ++ rest)⟩) h0 hnc
    (parseIndex_slice s hws _ _) (R.pisSlice rfl (gr 20 hwr _ rest hf))
  simpa using this

/-- After `[?`: condition, `]`, right-hand side; the same for `nud` and `led`. -/
theorem filter_body {c : PE N} {r : Rhs N} (gc : GoodE c) (gr : GoodRhs r) (hwc : wf c) (hwr : wfRhs 21 r) (n : Node N)
    (bef : List Token) {rest : List Token} (hf : FollowRhs r 21 rest) :
    R T (.filter n ⟨bef, (ppE c ++ tk .rbracket :: ppRhs r) ++ rest⟩)
      (.node (.filterProj n (nodeRhs r) (node c)) ⟨(ppE c ++ tk .rbracket :: ppRhs r).reverse ++ bef, rest⟩) := by
  simp only [List.reverse_append, List.reverse_cons, List.append_assoc, List.cons_append, List.nil_append]
  have hcond := gc.elem hwc bef (tk .rbracket) (ppRhs r ++ rest)
  have hrhs := gr 21 hwr (tk .rbracket :: ((ppE c).reverse ++ bef)) rest hf
  obtain ⟨t, rest', rfl, ht⟩ := hf
  cases r with
  | none =>
    -- `[?c]` directly in front of `[]` is read without calling parseProjectionRHS
    by_cases hfl : t.ty = .flatten
    · exact R.filterFlat hcond rfl rfl hfl
    · exact R.filterRhs hcond rfl rfl hfl hrhs
  | dot e =>
    exact R.filterRhs hcond rfl rfl (by decide) hrhs
  | br e =>
    obtain ⟨t0, ts0, h0, hty⟩ := ppE_head e (t :: rest')
    have hb := hwr.1
    simp only [brOK, Bool.and_eq_true, Bool.or_eq_true, beq_iff_eq] at hb
    refine R.filterRhs hcond (by rw [← h0]; rfl) rfl ?_ hrhs
    rw [hty]; rcases hb.1 with h | h <;> rw [h] <;> decide

theorem dot_of {e : PE N} (ge : GoodE e) (gd : e.isListOrHash = true → GoodDot e) : GoodDot e := by
  cases hnl : e.isListOrHash
  · intro hw bp allowStar hd bef rest hf
    simp only [hnl, Bool.false_eq_true, if_false] at hf
    simp only [dotOK, hnl, Bool.false_or, Bool.and_eq_true, Bool.or_eq_true, beq_iff_eq, decide_eq_true_eq] at hd
    obtain ⟨t0, ts0, hs, hty⟩ := ppE_head e rest
    have hx := ge.reads hw hd.2 bef hf
    rcases hd.1 with (h | h) | ⟨_, h⟩
    · exact R.dotIdent hs (Or.inr (hty.trans h)) hx
    · exact R.dotIdent hs (Or.inl (hty.trans h)) hx
    · exact R.dotStar hs (hty.trans h) hx
  · exact gd hnl

mutual
theorem good_all (e : PE N) : GoodE e := by
  -- the goal stays `loop … → expr …`: that is what `expr_of_nud` and `expr_of_led` end in
  intro hw k bef rest o hk hf
  cases e with
  | ident n => exact expr_of_nud (R.nudIdent rfl)
  | quoted n =>
    -- a quoted identifier must not be followed by `(`; `rp = 59` says so
    obtain ⟨t, rest', rfl, ht⟩ := hf
    refine expr_of_nud (R.nudQuoted rfl rfl ?_)
    intro e; rw [e] at ht; exact absurd ht (show ¬ 60 ≤ 59 by omega)
  | raw s => exact expr_of_nud (R.nudRaw rfl)
  | lit t v => exact expr_of_nud (R.nudJson rfl hw)
  | current => exact expr_of_nud (R.nudCurrent rfl)
  | idx0 txt i =>
    exact expr_of_nud (R.nudIndex rfl rfl rfl rfl hw)
  | idx l txt i =>
    exact expr_of_led (good_all l) hw.2 hk rfl (fun _ => R.ledIndex rfl rfl rfl hw.1)
  | sub l r =>
    refine expr_of_led (good_all l) hw.2.1 hk rfl (fun b => ?_)
    obtain ⟨t0, ts0, hs, hty⟩ := ppE_head r rest
    refine R.ledDot hs (hty ▸ first_ne_star hw.1)
      (dot_of (good_all r) (dot_body r) hw.2.2 40 false hw.1 (tk .dot :: b) rest (Next.mono hf ?_))
    show (if r.isListOrHash then 40 else min 40 r.rp) ≤ _
    split <;> omega
  | not e => exact expr_of_nud (R.nudNot rfl (right_operand (good_all e) hw 45 _ hf))
  | bin op l r =>
    exact expr_of_led (good_all l) hw.1 hk (specPow_op op)
      (fun _ => led_bin op (right_operand (good_all r) hw.2 op.pow _ hf))
  | call n args =>
    -- `nud` reads the name alone, the loop continues with `(` as an operator of power 60
    -- (the type given to `hloop` is its own with `node` and `ppE` of the call computed)
    intro (hloop : R T (.loop k (.call n _) ⟨List.reverse (_ :: _ :: _ ++ _) ++ _, _⟩) o)
    have e1 : ppE (.call n args) ++ rest = tk .uident n :: tk .lparen :: (ppArgs args ++ tk .rparen :: rest) :=
      List.append_assoc _ _ _
    rw [e1]
    refine R.expr rfl (R.nudIdent rfl) ?_
    have hloop' : R T (.loop k (.call n (nodeArgs args))
        ⟨tk .rparen :: ((ppArgs args).reverse ++ (tk .lparen :: tk .uident n :: bef)), rest⟩) o := by
      simpa [List.reverse_append] using hloop
    refine R.step rfl (by rw [T_power]; exact hk) ?_ hloop'
    have ga := good_args args
    cases args with
    | nil => exact R.ledCall0 rfl rfl rfl rfl
    | cons a as =>
      obtain ⟨t0, rest0, h0, hn0⟩ := ppArgs_start a as (tk .rparen :: rest)
      exact R.ledCall rfl rfl h0 hn0 (args_list ga.1 ga.2 hw.1 hw.2 (tk .lparen :: tk .uident n :: bef) rest) rfl rfl
  | list x xs =>
    obtain ⟨t0, ts0, h0, hty⟩ := headIs_append rest (headIs_append [tk .rbracket] (headIs_append (ppTail xs) (ppE_first x)))
    exact R.expr rfl
      (R.nudList rfl h0 (head_ne hty) (head_ne hty) (hty ▸ hw.1) (list_body (good_all x) (good_list' xs) hw bef rest))
  | hash q k v kvs =>
    exact R.expr rfl (R.nudHash rfl (hash_body q k (good_all v) (good_kvs kvs) hw bef rest))
  | paren e => exact expr_of_nud ((good_all e).nud_paren hw bef rest)
  | star0 r =>
    refine expr_of_nud ?_
    have hrhs := good_rhs r 20 hw (tk .star :: bef) rest (Next.min_right hf)
    obtain ⟨t, rest', rfl, ht⟩ := hf
    cases r with
    | none =>
      -- `*` directly in front of `]` is read without calling parseProjectionRHS
      by_cases hb : t.ty = .rbracket
      · exact R.nudStarR rfl rfl hb
      · exact R.nudStar rfl rfl hb hrhs
    | dot e => exact R.nudStar rfl rfl (by decide) hrhs
    | br e =>
      obtain ⟨t0, ts0, h0, hty⟩ := ppE_head e (t :: rest')
      exact R.nudStar rfl h0 (head_ne hty) hrhs
  | dstar l r =>
    refine expr_of_led (good_all l) hw.1 hk rfl (fun b => ?_)
    simp only [List.reverse_cons, List.append_assoc, List.cons_append, List.nil_append]
    exact R.ledDotStar rfl rfl (good_rhs r 20 hw.2 _ rest (Next.min_right hf))
  | bstar0 r =>
    refine expr_of_nud ?_
    simp only [List.reverse_cons, List.append_assoc, List.cons_append, List.nil_append]
    exact R.nudBracketStar rfl rfl rfl rfl (good_rhs r 20 hw _ rest (Next.min_right hf))
  | bstar l r =>
    refine expr_of_led (good_all l) hw.1 hk rfl (fun b => ?_)
    simp only [List.reverse_cons, List.append_assoc, List.cons_append, List.nil_append]
    exact R.ledBracketStar rfl rfl rfl (good_rhs r 20 hw.2 _ rest (Next.min_right hf))
  | flat0 r =>
    exact expr_of_nud (R.nudFlatten rfl
      (good_rhs r 9 hw (tk .flatten :: bef) rest (Next.min_right hf)))
  | flat l r =>
    exact expr_of_led (good_all l) hw.1 hk rfl
      (fun b => R.ledFlatten (good_rhs r 9 hw.2 (tk .flatten :: b) rest (Next.min_right hf)))
  | slice0 s r =>
    exact expr_of_nud (nud_of_led (.inl rfl)
      (led_slice s (good_rhs r) hw.1 hw.2 .identity bef (Next.min_right hf)))
  | slice l s r =>
    have e1 : ppE (.slice l s r) = wrap (l.rp < 55) l ++ ppE (.slice0 s r) := List.append_assoc _ _ _
    rw [e1]
    exact expr_of_led (good_all l) hw.2.1 hk rfl
      (fun b => led_slice s (good_rhs r) hw.1 hw.2.2 (node l) b (Next.min_right hf))
  | filt0 c r =>
    exact expr_of_nud (R.nudFilter rfl
      (filter_body (good_all c) (good_rhs r) hw.1 hw.2 .identity (tk .filter :: bef) (Next.min_right hf)))
  | filt l c r =>
    have e1 : ppE (.filt l c r) = wrap (l.rp < 21) l ++ ppE (.filt0 c r) := List.append_assoc _ _ _
    rw [e1]
    exact expr_of_led (good_all l) hw.1 hk rfl (fun b => R.ledFilter
      (filter_body (good_all c) (good_rhs r) hw.2.1 hw.2.2 (node l) (tk .filter :: b) (Next.min_right hf)))
/-- After a dot a list or hash is not read by `nud`: `parseDotRHS` goes straight to the body. -/
theorem dot_body (e : PE N) (h : e.isListOrHash = true) : GoodDot e := by
  intro hw bp _ _ bef rest _
  cases e with
  | list x xs =>
    exact R.dotList rfl rfl (list_body (good_all x) (good_list' xs) hw bef rest)
  | hash q k v kvs =>
    exact R.dotHash rfl rfl (hash_body q k (good_all v) (good_kvs kvs) hw bef rest)
  | _ => cases h
theorem good_rhs : (r : Rhs N) → GoodRhs r := fun r bp hw bef rest hf => by
  cases r with
  | none =>
    obtain ⟨t, rest', rfl, ht⟩ := hf
    exact R.prhsId rfl (by rw [T_power]; exact Nat.lt_succ_of_le ht)
  | dot e =>
    simp only [ppRhs_dot, List.reverse_cons, List.append_assoc, List.cons_append, List.nil_append]
    exact R.prhsDot rfl (by decide) rfl (dot_of (good_all e) (dot_body e) hw.2 bp true hw.1 _ rest hf)
  | br e =>
    obtain ⟨hb, hwe⟩ := hw
    simp only [brOK, Bool.and_eq_true, Bool.or_eq_true, beq_iff_eq, decide_eq_true_eq] at hb
    obtain ⟨t0, ts0, hs, hty⟩ := ppE_head e rest
    refine R.prhsBracket hs ?_ (hty ▸ hb.1) ((good_all e).reads hwe hb.2 bef hf)
    rw [T_power, hty]
    rcases hb.1 with h | h <;> rw [h] <;> decide
theorem good_list' : (xs : List (PE N)) → GoodList xs
  | [] => trivial
  | x :: xs => ⟨good_all x, good_list' xs⟩
theorem good_kvs : (kvs : List (Bool × Bytes × PE N)) → GoodKVs kvs
  | [] => trivial
  | (_, _, v) :: rest => ⟨good_all v, good_kvs rest⟩
theorem good_args : (as : List (Bool × PE N)) → GoodArgs as
  | [] => trivial
  | (_, e) :: rest => ⟨good_all e, good_args rest⟩
end

/-- what `Lexer.TokensOK` asks of the printed tokens (`round_trip_spec`) -/
def okTok (t : Token) : Prop := t.ty ≠ .eof ∧ t.pos = 0

def AllOK (l : List Token) : Prop := ∀ t ∈ l, okTok t

@[simp] theorem allOK_nil : AllOK [] := fun _ h => by cases h
@[simp] theorem allOK_cons {t : Token} {l : List Token} : AllOK (t :: l) ↔ okTok t ∧ AllOK l := List.forall_mem_cons
@[simp] theorem allOK_append {a b : List Token} : AllOK (a ++ b) ↔ AllOK a ∧ AllOK b := List.forall_mem_append
@[simp] theorem okTok_tk (ty : TokType) (v : Bytes) : okTok (tk ty v) ↔ ty ≠ .eof := by simp [okTok, tk]
@[simp] theorem ok_key (q : Bool) (k : Bytes) : okTok (keyTok q k) := by cases q <;> simp [keyTok]
@[simp] theorem tok_ne_eof (op : BinOp) : op.tok ≠ .eof := by
  cases op with
  | cmp c => cases c <;> simp [BinOp.tok, cmpTok]
  | _ => simp [BinOp.tok]
@[simp] theorem allOK_parens {l : List Token} : AllOK (parens l) ↔ AllOK l := by simp [parens]
omit [NumOps N] in
@[simp] theorem allOK_wrap (c : Prop) [Decidable c] {e : PE N} : AllOK (wrap c e) ↔ AllOK (ppE e) := by
  unfold wrap; split <;> simp
@[simp] theorem allOK_numTok (o : Option (Bytes × Int)) : AllOK (numTok o) := by
  cases o <;> simp [numTok]
@[simp] theorem allOK_slice (s : SliceTxt) : AllOK s.toks := by
  obtain ⟨a, b, _ | c⟩ := s <;> simp [SliceTxt.toks]

/- Structural recursion written as `cases`.  `ppE_ok` and `ppRhs_ok` open the one layer of the printer by computing it
   (`conv => arg 1; whnf` stops at the first `++`, `::` or `if`), the others by the rules of the list printers above; the block's own
   theorems are the rewrite rules for the sub-trees.  Naming `ppE` (in `node_erase`: `erase`, `node`) to `simp` would have Lean
   prove the unfolding equations of the mutual definitions first, which costs more than everything else in this file; for the
   same reason `list_body` and `hash_body` spell the printed form out. -/
mutual
theorem ppE_ok : (e : PE N) → AllOK (ppE e) := fun e => by
  cases e <;> (conv => arg 1; whnf) <;> simp [ppE_ok, ppRhs_ok, ppTail_ok, ppKVs_ok, ppArgs_ok]
theorem ppRhs_ok : (r : Rhs N) → AllOK (ppRhs r) := fun r => by
  cases r <;> (conv => arg 1; whnf) <;> simp [ppE_ok]
theorem ppTail_ok : (xs : List (PE N)) → AllOK (ppTail xs) := fun xs => by
  cases xs <;> simp [ppTail_nil, ppTail_cons, ppE_ok, ppTail_ok]
theorem ppKVs_ok : (kvs : List (Bool × Bytes × PE N)) → AllOK (ppKVs kvs) := fun kvs => by
  rcases kvs with _ | ⟨⟨q, k, v⟩, rest⟩ <;> simp [ppKVs_nil, ppKVs_cons, ppE_ok, ppKVs_ok]
theorem ppArgs_ok : (as : List (Bool × PE N)) → AllOK (ppArgs as)
  | [] => allOK_nil
  | [(b, e)] => by cases b <;> simp [ppArgs_one, ppE_ok e]
  | (b, e) :: a :: rest => by cases b <;> simp [ppArgs_cons, ppE_ok e, ppArgs_ok (a :: rest)]
end

theorem round_trip_spec (e : PE N) (hw : wf e) : parseTokens T (ppE e ++ [eofTok 0]) = .ok (node e) :=
  parseTokens_ok_of_R rfl ((good_all e).elem hw [] (eofTok 0) []) ⟨eofTok 0, [], rfl, rfl⟩
    (Lexer.tokensOK_of_pre (fun t ht => (ppE_ok e t ht).1) (fun t ht => Nat.le_of_eq (ppE_ok e t ht).2))

section
omit [NumOps N]
mutual
theorem node_erase : (e : PE N) → node (erase e) = node e := fun e => by
  cases e with
  | paren e => exact node_erase e
  | _ => (conv => congr <;> whnf) <;> simp only [node_erase, nodeRhs_erase, nodeList_erase, nodeKVs_erase, nodeArgs_erase]
theorem nodeRhs_erase : (r : Rhs N) → nodeRhs (eraseRhs r) = nodeRhs r := fun r => by
  cases r <;> (conv => congr <;> whnf) <;> simp only [node_erase]
theorem nodeList_erase : (xs : List (PE N)) → nodeList (eraseList xs) = nodeList xs := fun xs => by
  cases xs <;> (conv => congr <;> whnf) <;> simp only [node_erase, nodeList_erase]
theorem nodeKVs_erase : (kvs : List (Bool × Bytes × PE N)) → nodeKVs (eraseKVs kvs) = nodeKVs kvs := fun kvs => by
  rcases kvs with _ | ⟨⟨q, k, v⟩, rest⟩ <;> (conv => congr <;> whnf) <;> simp only [node_erase, nodeKVs_erase]
theorem nodeArgs_erase : (as : List (Bool × PE N)) → nodeArgs (eraseArgs as) = nodeArgs as := fun as => by
  rcases as with _ | ⟨⟨b, e⟩, rest⟩ <;> (conv => congr <;> whnf) <;> simp only [node_erase, nodeArgs_erase]
end
end

end Jmes.Parser
