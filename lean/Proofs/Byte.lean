/-
  Proofs.Byte — what several codec proofs need about bytes: case analysis
  over the 256 values, byte strings as lists of numbers, and the bit fields of
  UTF-8 (`<<<`, `|||`, `>>>`, `&&&` on six-bit payloads) as sums and products.
-/
import Jmes.Utf8
namespace Jmes

theorem forall_uint8 (P : UInt8 → Prop) (h : ∀ n : Fin 256, P (UInt8.ofNat n.val)) : ∀ c : UInt8, P c := by
  intro c
  have := h ⟨c.toNat, c.toNat_lt⟩
  simpa using this

theorem ne_of_nonascii {x c : UInt8} (hx : ¬ x < 0x80) (hc : c < 0x80) : x ≠ c := fun e => hx (e ▸ hc)

theorem bytes_eq_of_toNat {a b : Bytes} (h : a.map UInt8.toNat = b.map UInt8.toNat) : a = b :=
  (List.map_inj_right fun _ _ => UInt8.toNat_inj.mp).mp h

theorem bytes_lt_of_toNat : ∀ {a b : Bytes}, a.map UInt8.toNat < b.map UInt8.toNat → a < b
  | [], [], h => absurd h (List.lt_irrefl _)
  | [], _ :: _, _ => List.nil_lt_cons _ _
  | _ :: _, [], h => absurd h (List.not_lt_nil _)
  | x :: xs, y :: ys, h => by
    rw [List.map_cons, List.map_cons, List.cons_lt_cons_iff] at h
    rw [List.cons_lt_cons_iff]
    rcases h with h | ⟨e, h⟩
    · exact .inl (UInt8.lt_iff_toNat_lt.mpr h)
    · exact .inr ⟨UInt8.toNat_inj.mp e, bytes_lt_of_toNat h⟩

theorem nibbles (c : UInt8) : c.toNat >>> 4 < 16 ∧ c.toNat &&& 0xF < 16 := by
  have := c.toNat_lt
  rw [Nat.shiftRight_eq_div_pow, Nat.and_two_pow_sub_one_eq_mod _ 4]
  omega

theorem tag_or (t x i : Nat) (hx : x < 2 ^ i) (ht : t % 2 ^ i = 0) : t ||| x = t + x := by
  have : t = (t / 2 ^ i) <<< i := by
    rw [Nat.shiftLeft_eq, Nat.div_mul_cancel (Nat.dvd_of_mod_eq_zero ht)]
  rw [this, ← Nat.shiftLeft_add_eq_or_of_lt hx]

theorem tag_byte (t x i : Nat) (hx : x < 2 ^ i) (ht : t % 2 ^ i = 0) (h : t + 2 ^ i ≤ 256) :
    (t ||| x).toUInt8.toNat = t + x := by
  rw [tag_or t x i hx ht, Nat.toUInt8_eq, UInt8.toNat_ofNat']; omega

theorem shl6_or (a c : Nat) : a <<< 6 ||| (c &&& 0x3F) = a * 64 + c % 64 := by
  rw [Nat.and_two_pow_sub_one_eq_mod c 6, ← Nat.shiftLeft_add_eq_or_of_lt (Nat.mod_lt _ (by decide)), Nat.shiftLeft_eq]

theorem bits3 (a b c : Nat) :
    a <<< 12 ||| (b &&& 0x3F) <<< 6 ||| (c &&& 0x3F) = (a * 64 + b % 64) * 64 + c % 64 := by
  rw [Nat.shiftLeft_add a 6 6, ← Nat.shiftLeft_or_distrib, shl6_or, shl6_or]

theorem bits4 (a b c d : Nat) :
    a <<< 18 ||| (b &&& 0x3F) <<< 12 ||| (c &&& 0x3F) <<< 6 ||| (d &&& 0x3F)
      = ((a * 64 + b % 64) * 64 + c % 64) * 64 + d % 64 := by
  rw [Nat.shiftLeft_add a 12 6, Nat.shiftLeft_add (b &&& 0x3F) 6 6, ← Nat.shiftLeft_or_distrib,
    ← Nat.shiftLeft_or_distrib, bits3, shl6_or]

theorem shr6 (a z : Nat) (hz : z < 64) : (a * 64 + z) >>> 6 = a ∧ (a * 64 + z) &&& 0x3F = z := by
  rw [Nat.shiftRight_eq_div_pow, Nat.and_two_pow_sub_one_eq_mod _ 6]; omega

end Jmes
