/-
  Proofs.Res — what a `Res` computation does, stated once: when a bind returns a value, when it can panic, and
  `Res.mapM'` (the shape of every "loop, stop at the first error" in the model) element by element.
-/
import Jmes.Basic
namespace Jmes.Res
variable {α β : Type}

@[simp] theorem isPanic_ok (a : α) : (ok a).isPanic = false := rfl
@[simp] theorem isPanic_err (e : Err) : (err e : Res α).isPanic = false := rfl
@[simp] theorem isPanic_panic (s : String) : (panic s : Res α).isPanic = true := rfl

theorem panic_elim {P : Prop} {r : Res α} {p : String} (h : r = .panic p) (hnp : r.isPanic = false) : P := by
  subst h; cases hnp

theorem bind_eq_ok {r : Res α} {k : α → Res β} {b : β} : r >>= k = .ok b ↔ ∃ a, r = .ok a ∧ k a = .ok b := by
  cases r <;> simp

theorem bind_assoc {γ : Type} (r : Res α) (k : α → Res β) (g : β → Res γ) : r >>= k >>= g = r >>= fun a => k a >>= g := by
  cases r <;> rfl

theorem isPanic_bind {r : Res α} {k : α → Res β} (h : r.isPanic = false)
    (hk : ∀ a, r = .ok a → (k a).isPanic = false) : (r >>= k).isPanic = false := by
  cases r with
  | ok a => exact hk a rfl
  | err e => rfl
  | panic p => exact h

theorem mapM'_cons (f : α → Res β) (x : α) (xs : List α) :
    mapM' f (x :: xs) = f x >>= fun y => mapM' f xs >>= fun ys => .ok (y :: ys) := by
  conv => lhs; whnf  -- `simp only [mapM']` would have Lean prove the loop's unfolding equation first
  cases f x with
  | ok y => cases mapM' f xs <;> rfl
  | _ => rfl

theorem isPanic_mapM' {f : α → Res β} : ∀ {xs : List α}, (∀ x ∈ xs, (f x).isPanic = false) → (mapM' f xs).isPanic = false
  | [], _ => rfl
  | x :: xs, h => by
    rw [mapM'_cons]
    exact isPanic_bind (h x (List.mem_cons_self ..)) fun _ _ =>
      isPanic_bind (isPanic_mapM' fun y hy => h y (List.mem_cons_of_mem _ hy)) fun _ _ => rfl

theorem mapM'_ok {f : α → Res β} : ∀ {xs : List α} {ys : List β}, mapM' f xs = .ok ys →
    ys.length = xs.length ∧ ∀ i (hi : i < xs.length) (hj : i < ys.length), f xs[i] = .ok ys[i]
  | [], ys, h => by cases h; exact ⟨rfl, fun i hi => by cases hi⟩
  | x :: xs, ys, h => by
    rw [mapM'_cons] at h
    obtain ⟨y, hy, h⟩ := bind_eq_ok.mp h
    obtain ⟨zs, hzs, h⟩ := bind_eq_ok.mp h
    cases h
    obtain ⟨hl, hi⟩ := mapM'_ok hzs
    refine ⟨by simp [hl], fun i h1 h2 => ?_⟩
    cases i with
    | zero => exact hy
    | succ j => exact hi j (by simpa using h1) (by simpa using h2)

theorem mapM'_mem {f : α → Res β} {xs : List α} {ys : List β} (h : mapM' f xs = .ok ys) {y : β} (hy : y ∈ ys) :
    ∃ x ∈ xs, f x = .ok y := by
  obtain ⟨i, hi, rfl⟩ := List.getElem_of_mem hy
  obtain ⟨hl, h⟩ := mapM'_ok h
  exact ⟨xs[i]'(hl ▸ hi), List.getElem_mem _, h i _ hi⟩

theorem mapM'_ok_of_mem {f : α → Res β} {xs : List α} {ys : List β} (h : mapM' f xs = .ok ys) (x : α) (hx : x ∈ xs) :
    ∃ y, f x = .ok y := by
  obtain ⟨i, hi, rfl⟩ := List.getElem_of_mem hx
  obtain ⟨hl, h⟩ := mapM'_ok h
  exact ⟨ys[i]'(hl ▸ hi), h i hi _⟩

theorem mapM'_map {f : α → Res β} {g : α → β} : ∀ {xs : List α}, (∀ x ∈ xs, f x = .ok (g x)) → mapM' f xs = .ok (xs.map g)
  | [], _ => rfl
  | x :: xs, h => by
    rw [mapM'_cons, h x (List.mem_cons_self ..), mapM'_map fun y hy => h y (List.mem_cons_of_mem _ hy)]
    rfl

theorem bind_ne_ok {r : Res α} {k : α → Res β} (h : ∀ a, r = .ok a → ∀ b, k a ≠ .ok b) : ∀ b, r >>= k ≠ .ok b :=
  fun b hb => let ⟨a, ha, hk⟩ := bind_eq_ok.mp hb; h a ha b hk

theorem bind_ne_ok_left {r : Res α} {k : α → Res β} (h : ∀ a, r ≠ .ok a) : ∀ b, r >>= k ≠ .ok b :=
  bind_ne_ok fun a ha => absurd ha (h a)

theorem bind_ne_ok_right {r : Res α} {k : α → Res β} {a : α} (hr : r = .ok a) (h : ∀ b, k a ≠ .ok b) :
    ∀ b, r >>= k ≠ .ok b := by
  rw [hr]; exact h

theorem mapM'_ne_ok {f : α → Res β} {xs : List α} {x : α} (hx : x ∈ xs) (h : ∀ y, f x ≠ .ok y) :
    ∀ ys, mapM' f xs ≠ .ok ys :=
  fun _ hys => let ⟨y, hy⟩ := mapM'_ok_of_mem hys x hx; h y hy

end Jmes.Res
