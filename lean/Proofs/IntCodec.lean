/-
  Proofs.IntCodec — the integer instance of the number interface satisfies the
  number-text contract `NumCodec` (decimal text is a JSON number token that
  parses back): the hypotheses of the codec theorems are satisfiable.
-/
import Proofs.JsonValue
namespace Jmes
open Jmes.Json

theorem dig_of_lt10 (d : Nat) (h : d < 10) : isDigit (48 + d).toUInt8 = true ∧ ((48 + d).toUInt8).toNat - 48 = d := by
  have : ∀ d : Fin 10, isDigit (48 + d.val).toUInt8 = true ∧ ((48 + d.val).toUInt8).toNat - 48 = d.val := by decide
  exact this ⟨d, h⟩

def digitsVal (ds : Bytes) : Nat := ds.foldl (fun a d => a * 10 + (d.toNat - 48)) 0

theorem decAux_spec : ∀ (fuel n : Nat), n < fuel →
    (∀ c ∈ decAux fuel n, isDigit c = true) ∧ digitsVal (decAux fuel n) = n ∧
    ∃ c cs, decAux fuel n = c :: cs ∧ (0 < n → c ≠ 0x30)
  | 0, n, h => by omega
  | fuel + 1, n, h => by
    simp only [decAux]
    by_cases hn : n < 10
    · obtain ⟨h1, h2⟩ := dig_of_lt10 n hn
      simp only [hn, if_true]
      refine ⟨by intro c hc; rw [List.mem_singleton.mp hc]; exact h1,
        by simp only [digitsVal, List.foldl_cons, List.foldl_nil]; omega, _, [], rfl, ?_⟩
      have : ∀ q : Fin 10, 0 < q.val → (48 + q.val).toUInt8 ≠ 0x30 := by decide
      exact this ⟨n, hn⟩
    · obtain ⟨ihdig, ihval, x, xs, hd, ihlead⟩ := decAux_spec fuel (n / 10) (by omega)
      obtain ⟨h1, h2⟩ := dig_of_lt10 (n % 10) (Nat.mod_lt _ (by omega))
      simp only [hn, if_false]
      -- the first digit is the first digit of `n / 10`, which is positive
      refine ⟨?_, ?_, x, xs ++ [_], by rw [hd]; rfl, fun _ => ihlead (by omega)⟩
      · intro c hc
        rcases List.mem_append.mp hc with h' | h'
        · exact ihdig c h'
        · rw [List.mem_singleton.mp h']; exact h1
      · simp only [digitsVal, List.foldl_append, List.foldl_cons, List.foldl_nil] at ihval ⊢
        rw [ihval, h2]; omega

theorem natToDec_spec (n : Nat) : ∃ c cs, natToDec n = c :: cs ∧
    (∀ x ∈ c :: cs, isDigit x = true) ∧ digitsVal (c :: cs) = n ∧ (c = 0x30 → cs = []) := by
  obtain ⟨hdig, hval, c, cs, hd, hlead⟩ := decAux_spec (n + 1) n (Nat.lt_succ_self n)
  refine ⟨c, cs, hd, hd ▸ hdig, hd ▸ hval, fun hc0 => ?_⟩
  by_cases h0 : 0 < n
  · exact absurd hc0 (hlead h0)
  · obtain rfl : n = 0 := by omega
    exact (List.cons.inj hd).2.symm

theorem digitsFold_some (ds : Bytes) (hd : ∀ c ∈ ds, isDigit c = true) (a : Nat) :
    ds.foldl (fun (acc : Option Nat) (d : UInt8) => match acc with
      | none => none
      | some a => if 48 ≤ d ∧ d ≤ 57 then some (a * 10 + (d.toNat - 48)) else none) (some a) =
    some (ds.foldl (fun a d => a * 10 + (d.toNat - 48)) a) := by
  induction ds generalizing a with
  | nil => rfl
  | cons d ds ih =>
    obtain ⟨h, hds⟩ := List.forall_mem_cons.mp hd
    simp only [Json.isDigit, Bool.and_eq_true, decide_eq_true_eq] at h
    simp only [List.foldl_cons, h, and_self, if_true]
    exact ih hds _

theorem digitsToNat_spec (c : UInt8) (cs : Bytes) (hd : ∀ x ∈ c :: cs, isDigit x = true) :
    digitsToNat? (c :: cs) = some (digitsVal (c :: cs)) :=
  digitsFold_some (c :: cs) hd 0

theorem intParse_format (i : Int) : intParse (intFormat i) = some i := by
  obtain ⟨c, cs, hd, hdig, hval, _⟩ := natToDec_spec i.natAbs
  have hds := digitsToNat_spec c cs hdig
  unfold intFormat
  rw [hd]
  by_cases hneg : i < 0
  · simp only [hneg, if_true, intParse, hds, hval, Option.map, bind, Option.bind, pure]
    rw [Int.ofNat_natAbs_of_nonpos (show i ≤ 0 by omega), Int.neg_neg]
  · simp only [hneg, if_false]
    have hc := hdig c (List.mem_cons_self ..)
    have n1 : c ≠ 45 := digit_ne hc rfl
    have n2 : c ≠ 43 := digit_ne hc rfl
    unfold intParse
    split
    · rename_i heq; exact absurd (List.cons.inj heq).1 n1
    · rename_i heq; exact absurd (List.cons.inj heq).1 n2
    · simp only [hds, hval, Option.map, bind, Option.bind, pure]
      rw [Int.natAbs_of_nonneg (show 0 ≤ i by omega)]

theorem takeDigits_run : ∀ (ds rest : Bytes), (∀ c ∈ ds, isDigit c = true) → (∀ d r, rest = d :: r → isDigit d = false) →
    Json.takeDigits (ds ++ rest) = (ds, rest)
  | [], rest, _, hr => by
    cases rest with
    | nil => rfl
    | cons d r => simp [Json.takeDigits, hr d r rfl]
  | x :: ds, rest, hd, hr => by
    obtain ⟨hx, hds⟩ := List.forall_mem_cons.mp hd
    simp [Json.takeDigits, hx, takeDigits_run ds rest hds hr]

theorem delim_head {rest : Bytes} (h : Delim rest) : ∀ d r, rest = d :: r → isDigit d = false ∧ d ≠ 0x2E ∧ d ≠ 0x65 ∧ d ≠ 0x45 := by
  intro d r e
  rcases h with rfl | ⟨d', r', rfl, hd⟩
  · cases e
  · rw [← (List.cons.inj e).1]
    rcases hd with rfl | rfl | rfl <;> decide

theorem scanNumber_minus (s : Bytes) (h : ∀ r, s ≠ 0x2D :: r) :
    scanNumber (0x2D :: s) = (scanNumber s).map (fun p => (0x2D :: p.1, p.2)) := by
  unfold scanNumber
  simp only []  -- opens the `let`s, so that `split` meets the match on the integer part
  split
  · rfl
  · simp only [apply_ite (Option.map _), Option.map_none, Option.map_some]
    rfl

theorem scan_digits (c : UInt8) (cs rest : Bytes) (hd : ∀ x ∈ c :: cs, isDigit x = true)
    (hc30 : c = 0x30 → cs = []) (hr : Delim rest) :
    scanNumber (c :: cs ++ rest) = some (c :: cs, rest) := by
  have hrest := delim_head hr
  have hc := hd c (List.mem_cons_self ..)
  have n1 : c ≠ 0x2D := digit_ne hc rfl
  have htake : Json.takeDigits (c :: (cs ++ rest)) = (c :: cs, rest) :=
    takeDigits_run (c :: cs) rest hd (fun d r e => (hrest d r e).1)
  -- `scanNumber` takes a lone `0`, or the digits `takeDigits` takes (`htake`), then looks for `.`, `e`, `E` (`r2`, `r3`, `r4`)
  cases rest with
  | nil =>
    by_cases h0 : c = 0x30
    · subst h0; rw [hc30 rfl]; simp [scanNumber.eq_def]
    · simp only [List.append_nil] at htake
      simp [scanNumber.eq_def, n1, hc, htake]
  | cons d r =>
    obtain ⟨_, r2, r3, r4⟩ := hrest d r rfl
    by_cases h0 : c = 0x30
    · subst h0; rw [hc30 rfl]; simp [scanNumber.eq_def, r2, r3, r4]
    · simp only [scanNumber.eq_def, List.cons_append, List.cons.injEq, n1, false_and, imp_self, implies_true, hc,
        ↓reduceIte, htake, r2, List.ne_cons_self, r3, decide_false, r4, Bool.or_self, Bool.false_eq_true,
        List.nil_append, List.append_nil]

theorem intFormat_head (i : Int) : ∃ c cs, intFormat i = c :: cs ∧ (c = 0x2D ∨ isDigit c = true) := by
  obtain ⟨c, cs, hd, hdig, _, _⟩ := natToDec_spec i.natAbs
  unfold intFormat
  rw [hd]
  by_cases hneg : i < 0
  · exact ⟨45, c :: cs, if_pos hneg, Or.inl rfl⟩
  · exact ⟨c, cs, if_neg hneg, Or.inr (hdig c (List.mem_cons_self ..))⟩

theorem intFormat_scan (i : Int) (rest : Bytes) (hr : Delim rest) : scanNumber (intFormat i ++ rest) = some (intFormat i, rest) := by
  obtain ⟨c, cs, hd, hdig, _, hzero⟩ := natToDec_spec i.natAbs
  have hu := scan_digits c cs rest hdig hzero hr
  unfold intFormat
  rw [hd]
  by_cases hneg : i < 0
  · rw [if_pos hneg, List.cons_append, scanNumber_minus, hu]
    · rfl
    · exact fun r e => digit_ne (hdig c (List.mem_cons_self ..)) rfl (List.cons.inj e).1
  · rw [if_neg hneg, hu]

theorem intNumCodec : NumCodec Int where
  head i _ := intFormat_head i
  scan i _ rest hr := intFormat_scan i rest hr
  parse i _ := intParse_format i

end Jmes
