/-
  Proofs.ErrFlow — the regenerated error-flow facts satisfy the rule (re-decided by the kernel on every run).
-/
import Spec.ErrFlow
namespace Jmes
open Jmes.Spec Jmes.GeneratedErrFlow

theorem generated_errflow_ok : ErrFlowOK sites = true := by decide +kernel

theorem errflow_site (s : Site) (h : s ∈ sites) :
    s.status = .propagated ∨ s.status = .replaced ∨ allowed s = true := by
  simpa only [siteOK, Bool.or_eq_true, beq_iff_eq, or_assoc] using List.all_eq_true.mp generated_errflow_ok s h

end Jmes
