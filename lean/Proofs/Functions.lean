/-
  Proofs.Functions — the type check protects the handlers.  What `typeCheck` tells about an argument
  (`Admits`), when `resolveArgs` succeeds (otherwise it is an error, never a panic), and that the loops of
  the by-expression functions panic only if the expression does.
-/
import Proofs.StrOrder
namespace Jmes.Fn
variable {N : Type}

def RefsSafe (args : List (Arg N)) : Prop :=
  ∀ f, Arg.ref f ∈ args → ∀ v, (f v).isPanic = false

theorem np_ok {α} (a : α) : (Res.ok a : Res α).isPanic = false := rfl
theorem np_err {α} (e : Err) : (Res.err e : Res α).isPanic = false := rfl

open Jmes.FnMore Jmes.StrOrder

theorem RefsSafe.nil : RefsSafe ([] : List (Arg N)) := fun _ h => nomatch h

theorem RefsSafe.cons_val (v : Val N) {as : List (Arg N)} (h : RefsSafe as) : RefsSafe (.val v :: as) := by
  intro f hf
  rcases List.mem_cons.mp hf with e | hf
  · cases e
  · exact h f hf

theorem RefsSafe.cons_ref {f : Val N → Res (Val N)} (hf : ∀ v, (f v).isPanic = false) {as : List (Arg N)}
    (h : RefsSafe as) : RefsSafe (.ref f :: as) := by
  intro g hg
  rcases List.mem_cons.mp hg with e | hg
  · cases e; exact hf
  · exact h g hg

/-- `Spec.Tables` builds its signatures with private `one` / `many`; these unfold to the same records, so
    `e.args = [one ts]` holds of a table entry by `rfl`. -/
abbrev one (ts : List JpType) : ArgSpec := { types := ts, variadic := false }
abbrev many (ts : List JpType) : ArgSpec := { types := ts, variadic := true }

/-- `typeOk`, read as a proposition about the argument. -/
def Admits : JpType → Arg N → Prop
  | .number, a => ∃ n, a = .val (.num n)
  | .string, a => ∃ s, a = .val (.str s)
  | .array, a => ∃ xs, a = .val (.arr xs)
  | .object, a => ∃ kvs, a = .val (.obj kvs)
  | .arrayNumber, a => ∃ ns : List N, a = .val (.arr (ns.map .num))
  | .arrayString, a => ∃ ss : List Bytes, a = .val (.arr (ss.map .str))
  | .expref, a => ∃ f, a = .ref f
  | .any, a => ∃ v, a = .val v

theorem typeOk_iff (t : JpType) (a : Arg N) : typeOk t a = true ↔ Admits t a := by
  cases t <;> rcases a with (_|_|_|_|_|_) | _ <;>
    simp [typeOk, Admits, toArrayNum, toArrayStr, allNums_isSome_iff, allStrs_isSome_iff]

theorem typeCheck_iff {s : ArgSpec} {a : Arg N} : typeCheck s a = true ↔ ∃ t ∈ s.types, Admits t a := by
  simp only [typeCheck, List.any_eq_true, typeOk_iff]

theorem typeCheck1 {t : JpType} {v : Bool} {a : Arg N} (h : typeCheck ⟨[t], v⟩ a = true) : Admits t a := by
  obtain ⟨w, hw, hA⟩ := typeCheck_iff.mp h
  exact List.mem_singleton.mp hw ▸ hA

theorem typeCheck2 {t u : JpType} {v : Bool} {a : Arg N} (h : typeCheck ⟨[t, u], v⟩ a = true) :
    Admits t a ∨ Admits u a := by
  obtain ⟨w, hw, hA⟩ := typeCheck_iff.mp h
  rcases List.mem_cons.mp hw with e | hw
  · exact Or.inl (e ▸ hA)
  · exact Or.inr (List.mem_singleton.mp hw ▸ hA)

/- By `rfl`: `simp only [checkFixed]` would have Lean prove the unfolding equation of the recursion first. -/
theorem checkFixed_cons (s : ArgSpec) (ss : List ArgSpec) (a : Arg N) (as : List (Arg N)) :
    checkFixed (s :: ss) (a :: as) = (typeCheck s a && checkFixed ss as) := rfl
theorem checkVariadic_cons (last s : ArgSpec) (ss : List ArgSpec) (a : Arg N) (as : List (Arg N)) :
    checkVariadic last (s :: ss) (a :: as) = (typeCheck s a && checkVariadic last ss as) := rfl
theorem checkVariadic_nil_cons (last : ArgSpec) (a : Arg N) (as : List (Arg N)) :
    checkVariadic last [] (a :: as) = (typeCheck last a && checkVariadic last [] as) := rfl

theorem checkFixed_nil_iff {args : List (Arg N)} : checkFixed [] args = true ↔ args = [] := by
  cases args with
  | nil => exact iff_of_true rfl rfl
  | cons a as => exact iff_of_false nofun nofun

theorem checkFixed_cons_iff {s : ArgSpec} {ss : List ArgSpec} {args : List (Arg N)} :
    checkFixed (s :: ss) args = true ↔ ∃ a as, args = a :: as ∧ typeCheck s a = true ∧ checkFixed ss as = true := by
  cases args with
  | nil => exact iff_of_false nofun fun ⟨_, _, e, _⟩ => nomatch e
  | cons a as =>
    simp only [checkFixed_cons, Bool.and_eq_true]
    exact ⟨fun h => ⟨a, as, rfl, h⟩, fun ⟨_, _, e, h⟩ => by cases e; exact h⟩

theorem checkFixed_length : ∀ {ss : List ArgSpec} {args : List (Arg N)},
    checkFixed ss args = true → ss.length = args.length
  | [], args, h => by cases checkFixed_nil_iff.mp h; rfl
  | s :: ss, args, h => by
    obtain ⟨a, as, rfl, _, h⟩ := checkFixed_cons_iff.mp h
    rw [List.length_cons, List.length_cons, checkFixed_length h]

theorem checkVariadic_nil_iff (last : ArgSpec) : ∀ args : List (Arg N),
    checkVariadic last [] args = true ↔ ∀ a ∈ args, typeCheck last a = true
  | [] => iff_of_true rfl nofun
  | a :: as => by simp [checkVariadic_nil_cons, checkVariadic_nil_iff last as]

theorem resolveArgs_fixed {e : FnEntry} {last : ArgSpec} (hl : e.args.getLast? = some last) (hv : last.variadic = false)
    (args : List (Arg N)) : resolveArgs e args = .ok () ↔ checkFixed e.args args = true := by
  unfold resolveArgs
  rw [hl]
  simp only [hv, Bool.not_false, if_true]
  constructor
  · intro h
    split at h
    · cases h
    · split at h
      · assumption
      · cases h
  · intro h
    rw [if_neg (fun hne => hne (checkFixed_length h)), if_pos h]

theorem resolveArgs_variadic {e : FnEntry} {last : ArgSpec} (hl : e.args.getLast? = some last) (hv : last.variadic = true)
    (args : List (Arg N)) :
    resolveArgs e args = .ok () ↔ e.args.length ≤ args.length ∧ checkVariadic last e.args args = true := by
  unfold resolveArgs
  rw [hl]
  simp only [hv, Bool.not_true, Bool.false_eq_true, if_false]
  constructor
  · intro h
    split at h
    · cases h
    · split at h
      · exact ⟨by omega, ‹_›⟩
      · cases h
  · rintro ⟨h1, h2⟩
    rw [if_neg (by omega), if_pos h2]

theorem resolveArgs_np (e : FnEntry) (args : List (Arg N)) : (resolveArgs e args).isPanic = false := by
  unfold resolveArgs
  split
  · rfl
  · rename_i last _
    cases last.variadic
    · simp only [Bool.not_false, if_true]
      split
      · rfl
      · split <;> rfl
    · simp only [Bool.not_true, Bool.false_eq_true, if_false]
      split
      · rfl
      · split <;> rfl

theorem resolveArgs_ok_or_err (e : FnEntry) (args : List (Arg N)) :
    resolveArgs e args = .ok () ∨ ∃ er, resolveArgs e args = .err er := by
  cases hr : resolveArgs e args with
  | ok u => exact .inl rfl
  | err er => exact .inr ⟨er, rfl⟩
  | panic p => exact Res.panic_elim hr (resolveArgs_np e args)

theorem resolve1 {e : FnEntry} {args : List (Arg N)} (hr : resolveArgs e args = .ok ()) (ts : List JpType)
    (he : e.args = [one ts]) : ∃ a, args = [a] ∧ typeCheck (one ts) a = true := by
  rw [resolveArgs_fixed (last := one ts) (by rw [he]; rfl) rfl, he] at hr
  obtain ⟨a, _, rfl, h, has⟩ := checkFixed_cons_iff.mp hr
  cases checkFixed_nil_iff.mp has
  exact ⟨a, rfl, h⟩

theorem resolve2 {e : FnEntry} {args : List (Arg N)} (hr : resolveArgs e args = .ok ()) (t1 t2 : List JpType)
    (he : e.args = [one t1, one t2]) :
    ∃ a c, args = [a, c] ∧ typeCheck (one t1) a = true ∧ typeCheck (one t2) c = true := by
  rw [resolveArgs_fixed (last := one t2) (by rw [he]; rfl) rfl, he] at hr
  obtain ⟨a, _, rfl, h1, hr⟩ := checkFixed_cons_iff.mp hr
  obtain ⟨c, _, rfl, h2, has⟩ := checkFixed_cons_iff.mp hr
  cases checkFixed_nil_iff.mp has
  exact ⟨a, c, rfl, h1, h2⟩

theorem resolveMany {e : FnEntry} {args : List (Arg N)} (hr : resolveArgs e args = .ok ()) (ts : List JpType)
    (he : e.args = [many ts]) : ∀ a ∈ args, typeCheck (many ts) a = true := by
  rw [resolveArgs_variadic (last := many ts) (by rw [he]; rfl) rfl, he] at hr
  obtain ⟨hlen, hc⟩ := hr
  cases args with
  | nil => cases hlen
  | cons a as =>
    simp only [checkVariadic_cons, Bool.and_eq_true, checkVariadic_nil_iff] at hc
    exact List.forall_mem_cons.mpr hc

theorem mapLoop_np (f : Val N → Res (Val N)) (hf : ∀ v, (f v).isPanic = false) (xs : List (Val N)) :
    (mapLoop f xs).isPanic = false := by
  rw [mapLoop_eq]
  exact Res.isPanic_mapM' fun x _ => hf x

section keyed
variable {K : Type} (proj : Val N → Option K) (f : Val N → Res (Val N)) (hf : ∀ v, (f v).isPanic = false)
include hf

theorem byLoop_np (bad : Err) (better : K → K → Bool) :
    ∀ (xs : List (Val N)) (bv : K) (bi : Val N), (byLoop proj bad f better bv bi xs).isPanic = false
  | [], _, _ => rfl
  | x :: xs, bv, bi => by
    unfold byLoop
    split
    · split
      · split <;> exact byLoop_np bad better xs _ _
      · rfl
    · rfl
    · exact Res.panic_elim ‹_› (hf x)

theorem keysOf_np : ∀ xs : List (Val N), (keysOf proj f xs).isPanic = false
  | [] => rfl
  | x :: xs => by
    unfold keysOf
    split
    · exact Res.panic_elim ‹_› (hf x)
    · exact Res.isPanic_bind (keysOf_np xs) fun _ _ => rfl

end keyed

theorem mergeLoop_np : ∀ (acc : List (Bytes × Val N)) (args : List (Arg N)), (∀ a ∈ args, Admits .object a) →
    (mergeLoop acc args).isPanic = false
  | _, [], _ => rfl
  | acc, a :: as, h => by
    obtain ⟨kvs, rfl⟩ := h a (List.mem_cons_self ..)
    exact mergeLoop_np _ as fun c hc => h c (List.mem_cons_of_mem _ hc)

variable [NumOps N]

theorem extremeBy_np (f : Val N → Res (Val N)) (hf : ∀ v, (f v).isPanic = false) (isMax : Bool) (xs : List (Val N)) :
    (extremeBy f isMax xs).isPanic = false := by
  unfold extremeBy
  split
  · rfl
  · split  -- on the key of the first element
    · rw [byLoopNum_eq]; exact byLoop_np _ f hf ..
    · rw [byLoopStr_eq]; exact byLoop_np _ f hf ..
    · rfl
    · rfl
    · exact Res.panic_elim ‹_› (hf _)

theorem sortBy_np (f : Val N → Res (Val N)) (hf : ∀ v, (f v).isPanic = false) (xs : List (Val N)) :
    (sortBy f xs).isPanic = false := by
  unfold sortBy
  split
  · rfl
  · split  -- on the key of the first element
    · split
      · rfl
      · split
        · rfl
        · rfl
        · rfl
        · exact Res.panic_elim ‹_› (keysNum_eq f _ ▸ keysOf_np numOf f hf _)
    · split
      · rfl
      · split
        · rfl
        · rfl
        · rfl
        · exact Res.panic_elim ‹_› (keysStr_eq f _ ▸ keysOf_np strOf f hf _)
    · rfl
    · rfl
    · exact Res.panic_elim ‹_› (hf _)

end Jmes.Fn
