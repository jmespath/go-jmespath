/-
  Proofs.TableTransfer — two binding-power tables that make the same
  decisions (`SameDecisions`) give the same parser: every parse function
  returns the same outcome and the same cursor.  Proofs/TableOK.lean shows
  which tables make the same decisions.
-/
import Jmes.Parser
namespace Jmes.Parser
variable {N : Type} [NumOps N]

/-- Right binding powers `a` (for table `t`) and `b` (for table `s`) that make the Pratt loop continue on the same tokens. -/
def RB (t s : ParserTable) (a b : Nat) : Prop := ∀ ty, a < t.power ty ↔ b < s.power ty

structure SameDecisions (t s : ParserTable) : Prop where
  stop : ∀ ty, t.power ty < t.projStop ↔ s.power ty < s.projStop
  top : RB t s t.top s.top
  ledDotSub : RB t s t.ledDotSub s.ledDotSub
  ledDotStar : RB t s t.ledDotStar s.ledDotStar
  ledPipe : RB t s t.ledPipe s.ledPipe
  ledOr : RB t s t.ledOr s.ledOr
  ledAnd : RB t s t.ledAnd s.ledAnd
  ledArg : RB t s t.ledArg s.ledArg
  ledArgExpref : RB t s t.ledArgExpref s.ledArgExpref
  ledFlatten : RB t s t.ledFlatten s.ledFlatten
  ledCmp : ∀ ty op, Cmp.ofTok ty = some op → RB t s ((t.ledCmp.lookup ty).getD 0) ((s.ledCmp.lookup ty).getD 0)
  ledBracketStar : RB t s t.ledBracketStar s.ledBracketStar
  nudStar : RB t s t.nudStar s.nudStar
  nudFlatten : RB t s t.nudFlatten s.nudFlatten
  nudBracketStar : RB t s t.nudBracketStar s.nudBracketStar
  nudNot : RB t s t.nudNot s.nudNot
  nudParen : RB t s t.nudParen s.nudParen
  msList : RB t s t.msList s.msList
  msHash : RB t s t.msHash s.msHash
  sliceProj : RB t s t.sliceProj s.sliceProj
  filterCond : RB t s t.filterCond s.filterCond
  filterRhs : RB t s t.filterRhs s.filterRhs

section
variable (N) (t s : ParserTable)

structure Agree (fuel : Nat) : Prop where
  expr : ∀ a b p, RB t s a b → parseExpression (N := N) t fuel a p = parseExpression s fuel b p
  loop : ∀ a b (l : Node N) p, RB t s a b → ledLoop t fuel a l p = ledLoop s fuel b l p
  nud : ∀ tok p, nud (N := N) t fuel tok p = nud s fuel tok p
  led : ∀ ty (n : Node N) p, led t fuel ty n p = led s fuel ty n p
  args : ∀ p, parseArgs (N := N) t fuel p = parseArgs s fuel p
  pis : ∀ (l r : Node N) p, projectIfSlice t fuel l r p = projectIfSlice s fuel l r p
  filter : ∀ (n : Node N) p, parseFilter t fuel n p = parseFilter s fuel n p
  dot : ∀ a b p, RB t s a b → parseDotRHS (N := N) t fuel a p = parseDotRHS s fuel b p
  proj : ∀ a b p, RB t s a b → parseProjectionRHS (N := N) t fuel a p = parseProjectionRHS s fuel b p
  msl : ∀ p (acc : List (Node N)), parseMultiSelectList t fuel p acc = parseMultiSelectList s fuel p acc
  msh : ∀ p (acc : List (Bytes × Node N)), parseMultiSelectHash t fuel p acc = parseMultiSelectHash s fuel p acc
end

variable {t s : ParserTable}

/-- The hypotheses at `fuel` are rewrite rules (a recursive call with `t`'s constant is the call with `s`'s), and so are
    the two tests that look at the table (`RB`, `SameDecisions.stop`); once they are applied, both sides are the same term. -/
theorem agree_succ (h : SameDecisions t s) {fuel : Nat} (ih : Agree N t s fuel) : Agree N t s (fuel + 1) where
  expr a b p hab := by simp only [parseExpression, ih.nud, ih.loop a b _ _ hab]
  loop a b l p hab := by simp only [ledLoop, ih.led, ih.loop a b _ _ hab, fun ty => propext (hab ty)]
  nud tok p := by
    simp only [nud, ih.proj _ _ _ h.nudStar, ih.proj _ _ _ h.nudFlatten, ih.proj _ _ _ h.nudBracketStar,
      ih.expr _ _ _ h.nudNot, ih.expr _ _ _ h.nudParen, ih.filter, ih.msh, ih.msl, ih.pis]
  led ty n p := by
    unfold led
    simp only [ih.dot _ _ _ h.ledDotSub, ih.proj _ _ _ h.ledDotStar, ih.expr _ _ _ h.ledPipe, ih.expr _ _ _ h.ledOr,
      ih.expr _ _ _ h.ledAnd, ih.args, ih.filter, ih.proj _ _ _ h.ledFlatten, ih.pis, ih.proj _ _ _ h.ledBracketStar]
    -- only the comparator row is left: its constant is looked up under the token type
    split <;> try rfl
    split
    · rename_i op hop
      rw [ih.expr _ _ p (h.ledCmp _ op hop)]
    · rfl
  args p := by simp only [parseArgs, ih.expr _ _ _ h.ledArg, ih.expr _ _ _ h.ledArgExpref, ih.args]
  pis l r p := by simp only [projectIfSlice, ih.proj _ _ _ h.sliceProj]
  filter n p := by simp only [parseFilter, ih.expr _ _ _ h.filterCond, ih.proj _ _ _ h.filterRhs]
  dot a b p hab := by simp only [parseDotRHS, ih.expr a b _ hab, ih.msl, ih.msh]
  proj a b p hab := by
    simp only [parseProjectionRHS, ih.expr a b _ hab, ih.dot a b _ hab, fun ty => propext (h.stop ty)]
  msl p acc := by simp only [parseMultiSelectList, ih.expr _ _ _ h.msList, ih.msl]
  msh p acc := by simp only [parseMultiSelectHash, ih.expr _ _ _ h.msHash, ih.msh]

theorem agree_all (h : SameDecisions t s) : ∀ fuel, Agree N t s fuel
  | 0 => by
    constructor <;> intros <;>
      simp only [parseExpression, ledLoop, nud, led, parseArgs, projectIfSlice, parseFilter, parseDotRHS,
        parseProjectionRHS, parseMultiSelectList, parseMultiSelectHash]
  | fuel + 1 => agree_succ h (agree_all h fuel)

theorem parseTokens_congr (h : SameDecisions t s) (toks : List Token) :
    parseTokens (N := N) t toks = parseTokens s toks := by
  unfold parseTokens
  rw [(agree_all h (fuelFor toks.length)).expr _ _ _ h.top]

theorem parseWith_congr (h : SameDecisions t s) (lt : Lexer.Tables) (expr : Bytes) :
    parseWith (N := N) lt t expr = parseWith lt s expr := by
  unfold parseWith
  simp only [parseTokens_congr h]

end Jmes.Parser
