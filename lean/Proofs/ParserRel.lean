/-
  Proofs.ParserRel — a fuel-free, relational description of the parser's
  success paths (`R call out`), and its soundness: whenever `R call out` is
  derivable, the fuel-based function returns `out`, or runs out of fuel —
  nothing else.  Combined with `Proofs.ParserSafe` (the fuel given by `parseTokens`
  always suffices) this turns a derivation into the parser's actual result.
-/
import Jmes.Parser
import Proofs.Res
namespace Jmes.Parser
variable {N : Type} [NumOps N]

inductive Call (N : Type) where
  | expr (rbp : Nat) (p : PState)
  | loop (rbp : Nat) (left : Node N) (p : PState)
  | nud (tok : Token) (p : PState)
  | led (ty : TokType) (n : Node N) (p : PState)
  | dot (bp : Nat) (p : PState)
  | msl (p : PState) (acc : List (Node N))
  | msh (p : PState) (acc : List (Bytes × Node N))
  | args (p : PState)
  | prhs (bp : Nat) (p : PState)
  | filter (n : Node N) (p : PState)
  | pis (left right : Node N) (p : PState)

inductive Out (N : Type) where
  | node (n : Node N) (p : PState)
  | args (as : List (Bool × Node N)) (p : PState)

def toOutN : Res (Node N × PState) → Res (Out N)
  | .ok (n, p) => .ok (.node n p)
  | .err e => .err e
  | .panic s => .panic s

def toOutA : Res (List (Bool × Node N) × PState) → Res (Out N)
  | .ok (a, p) => .ok (.args a p)
  | .err e => .err e
  | .panic s => .panic s

def run (tbl : ParserTable) (fuel : Nat) : Call N → Res (Out N)
  | .expr rbp p => toOutN (parseExpression tbl fuel rbp p)
  | .loop rbp l p => toOutN (ledLoop tbl fuel rbp l p)
  | .nud tok p => toOutN (nud tbl fuel tok p)
  | .led ty n p => toOutN (led tbl fuel ty n p)
  | .dot bp p => toOutN (parseDotRHS tbl fuel bp p)
  | .msl p acc => toOutN (parseMultiSelectList tbl fuel p acc)
  | .msh p acc => toOutN (parseMultiSelectHash tbl fuel p acc)
  | .args p => toOutA (parseArgs tbl fuel p)
  | .prhs bp p => toOutN (parseProjectionRHS tbl fuel bp p)
  | .filter n p => toOutN (parseFilter tbl fuel n p)
  | .pis l r p => toOutN (projectIfSlice tbl fuel l r p)

/-- One constructor per success path of the parser (`R_complete`: there are no others). -/
inductive R (tbl : ParserTable) : Call N → Out N → Prop where
  | expr {rbp p tok rest left p1 o} : p.after = tok :: rest → R tbl (.nud tok p.advance) (.node left p1) →
      R tbl (.loop rbp left p1) o → R tbl (.expr rbp p) o
  | stop {rbp left p t rest} : p.after = t :: rest → ¬ rbp < tbl.power t.ty → R tbl (.loop rbp left p) (.node left p)
  | step {rbp left p t rest left' p1 o} : p.after = t :: rest → rbp < tbl.power t.ty →
      R tbl (.led t.ty left p.advance) (.node left' p1) → R tbl (.loop rbp left' p1) o → R tbl (.loop rbp left p) o
  | nudJson {tok p v} : tok.ty = .jsonLiteral → (Json.decode tok.value : Option (Val N)) = some v →
      R tbl (.nud tok p) (.node (.literal v) p)
  | nudRaw {tok p} : tok.ty = .stringLiteral → R tbl (.nud tok p) (.node (.literal (.str tok.value)) p)
  | nudIdent {tok p} : tok.ty = .uident → R tbl (.nud tok p) (.node (.field tok.value) p)
  | nudQuoted {tok p t rest} : tok.ty = .qident → p.after = t :: rest → t.ty ≠ .lparen →
      R tbl (.nud tok p) (.node (.field tok.value) p)
  | nudCurrent {tok p} : tok.ty = .current → R tbl (.nud tok p) (.node .current p)
  | nudNot {tok p e p1} : tok.ty = .not → R tbl (.expr tbl.nudNot p) (.node e p1) → R tbl (.nud tok p) (.node (.not e) p1)
  | nudParen {tok p e p1 t rest} : tok.ty = .lparen → R tbl (.expr tbl.nudParen p) (.node e p1) →
      p1.after = t :: rest → t.ty = .rparen → R tbl (.nud tok p) (.node e p1.advance)
  | nudIndex {tok p n rb rest i} : tok.ty = .lbracket → p.after = n :: rb :: rest → n.ty = .number → rb.ty = .rbracket →
      atoi n.value = some i → R tbl (.nud tok p) (.node (.indexExpr .identity (.index i)) p.advance.advance)
  | nudList {tok p t rest o} : tok.ty = .lbracket → p.after = t :: rest → t.ty ≠ .number → t.ty ≠ .colon → t.ty ≠ .star →
      R tbl (.msl p []) o → R tbl (.nud tok p) o
  | nudHash {tok p o} : tok.ty = .lbrace → R tbl (.msh p []) o → R tbl (.nud tok p) o
  | ledDot {n p t rest r p1} : p.after = t :: rest → t.ty ≠ .star → R tbl (.dot tbl.ledDotSub p) (.node r p1) →
      R tbl (.led .dot n p) (.node (.sub n r) p1)
  | ledPipe {n p r p1} : R tbl (.expr tbl.ledPipe p) (.node r p1) → R tbl (.led .pipe n p) (.node (.pipe n r) p1)
  | ledOr {n p r p1} : R tbl (.expr tbl.ledOr p) (.node r p1) → R tbl (.led .or n p) (.node (.or n r) p1)
  | ledAnd {n p r p1} : R tbl (.expr tbl.ledAnd p) (.node r p1) → R tbl (.led .and n p) (.node (.and n r) p1)
  | ledCmp {ty op n p r p1} : Cmp.ofTok ty = some op → R tbl (.expr ((tbl.ledCmp.lookup ty).getD 0) p) (.node r p1) →
      R tbl (.led ty n p) (.node (.cmp op n r) p1)
  | ledCall0 {name p lp prev more t rest} : p.before = lp :: prev :: more → prev.ty = .uident →
      p.after = t :: rest → t.ty = .rparen → R tbl (.led .lparen (.field name) p) (.node (.call name []) p.advance)
  | ledCall {name p lp prev more t0 rest0 as p1 t rest} : p.before = lp :: prev :: more → prev.ty = .uident →
      p.after = t0 :: rest0 → t0.ty ≠ .rparen → R tbl (.args p) (.args as p1) →
      p1.after = t :: rest → t.ty = .rparen → R tbl (.led .lparen (.field name) p) (.node (.call name as) p1.advance)
  | ledIndex {node p n rb rest i} : p.after = n :: rb :: rest → n.ty = .number → rb.ty = .rbracket →
      atoi n.value = some i → R tbl (.led .lbracket node p) (.node (.indexExpr node (.index i)) p.advance.advance)
  -- (`dotStar`, the fourth form of a dot's right-hand side, is the last constructor)
  | dotIdent {bp p t rest o} : p.after = t :: rest → (t.ty = .qident ∨ t.ty = .uident) → R tbl (.expr bp p) o →
      R tbl (.dot bp p) o
  | dotList {bp p t rest o} : p.after = t :: rest → t.ty = .lbracket → R tbl (.msl p.advance []) o → R tbl (.dot bp p) o
  | dotHash {bp p t rest o} : p.after = t :: rest → t.ty = .lbrace → R tbl (.msh p.advance []) o → R tbl (.dot bp p) o
  | mslLast {p acc e p1 t rest} : R tbl (.expr tbl.msList p) (.node e p1) → p1.after = t :: rest → t.ty = .rbracket →
      R tbl (.msl p acc) (.node (.msList (e :: acc).reverse) p1.advance)
  | mslMore {p acc e p1 t rest o} : R tbl (.expr tbl.msList p) (.node e p1) → p1.after = t :: rest → t.ty = .comma →
      R tbl (.msl p1.advance (e :: acc)) o → R tbl (.msl p acc) o
  | mshLast {p acc k c rest0 v p2 t rest} : p.after = k :: c :: rest0 → (k.ty = .uident ∨ k.ty = .qident) → c.ty = .colon →
      R tbl (.expr tbl.msHash p.advance.advance) (.node v p2) → p2.after = t :: rest → t.ty = .rbrace →
      R tbl (.msh p acc) (.node (.msHash ((k.value, v) :: acc).reverse) p2.advance)
  | mshMore {p acc k c rest0 v p2 t rest o} : p.after = k :: c :: rest0 → (k.ty = .uident ∨ k.ty = .qident) → c.ty = .colon →
      R tbl (.expr tbl.msHash p.advance.advance) (.node v p2) → p2.after = t :: rest → t.ty = .comma →
      R tbl (.msh p2.advance ((k.value, v) :: acc)) o → R tbl (.msh p acc) o
  | argPlainLast {p t0 rest0 e p1 t rest} : p.after = t0 :: rest0 → t0.ty ≠ .expref →
      R tbl (.expr tbl.ledArg p) (.node e p1) → p1.after = t :: rest → t.ty = .rparen →
      R tbl (.args p) (.args [(false, e)] p1)
  | argRefLast {p t0 rest0 e p1 t rest} : p.after = t0 :: rest0 → t0.ty = .expref →
      R tbl (.expr tbl.ledArgExpref p.advance) (.node e p1) → p1.after = t :: rest → t.ty = .rparen →
      R tbl (.args p) (.args [(true, e)] p1)
  | argPlainMore {p t0 rest0 e p1 t rest t2 rest2 as p3} : p.after = t0 :: rest0 → t0.ty ≠ .expref →
      R tbl (.expr tbl.ledArg p) (.node e p1) → p1.after = t :: rest → t.ty = .comma →
      p1.advance.after = t2 :: rest2 → t2.ty ≠ .rparen → R tbl (.args p1.advance) (.args as p3) →
      R tbl (.args p) (.args ((false, e) :: as) p3)
  | argRefMore {p t0 rest0 e p1 t rest t2 rest2 as p3} : p.after = t0 :: rest0 → t0.ty = .expref →
      R tbl (.expr tbl.ledArgExpref p.advance) (.node e p1) → p1.after = t :: rest → t.ty = .comma →
      p1.advance.after = t2 :: rest2 → t2.ty ≠ .rparen → R tbl (.args p1.advance) (.args as p3) →
      R tbl (.args p) (.args ((true, e) :: as) p3)
  | nudStarR {tok p t rest} : tok.ty = .star → p.after = t :: rest → t.ty = .rbracket →
      R tbl (.nud tok p) (.node (.valueProj .identity .identity) p)
  | nudStar {tok p t rest r p1} : tok.ty = .star → p.after = t :: rest → t.ty ≠ .rbracket →
      R tbl (.prhs tbl.nudStar p) (.node r p1) → R tbl (.nud tok p) (.node (.valueProj .identity r) p1)
  | nudFilter {tok p o} : tok.ty = .filter → R tbl (.filter .identity p) o → R tbl (.nud tok p) o
  | nudFlatten {tok p r p1} : tok.ty = .flatten → R tbl (.prhs tbl.nudFlatten p) (.node r p1) →
      R tbl (.nud tok p) (.node (.proj (.flatten .identity) r) p1)
  | nudBracketIdx {tok p t rest right p1 o} : tok.ty = .lbracket → p.after = t :: rest → (t.ty = .number ∨ t.ty = .colon) →
      parseIndexExpression (N := N) p = .ok (right, p1) → R tbl (.pis .identity right p1) o → R tbl (.nud tok p) o
  | nudBracketStar {tok p s rb rest r p1} : tok.ty = .lbracket → p.after = s :: rb :: rest → s.ty = .star → rb.ty = .rbracket →
      R tbl (.prhs tbl.nudBracketStar p.advance.advance) (.node r p1) → R tbl (.nud tok p) (.node (.proj .identity r) p1)
  | nudListStar {tok p t u rest o} : tok.ty = .lbracket → p.after = t :: u :: rest → t.ty = .star → u.ty ≠ .rbracket →
      R tbl (.msl p []) o → R tbl (.nud tok p) o
  | ledDotStar {n p t rest r p1} : p.after = t :: rest → t.ty = .star → R tbl (.prhs tbl.ledDotStar p.advance) (.node r p1) →
      R tbl (.led .dot n p) (.node (.valueProj n r) p1)
  | ledFilter {n p o} : R tbl (.filter n p) o → R tbl (.led .filter n p) o
  | ledFlatten {n p r p1} : R tbl (.prhs tbl.ledFlatten p) (.node r p1) → R tbl (.led .flatten n p) (.node (.proj (.flatten n) r) p1)
  | ledBracketIdx {n p t rest right p1 o} : p.after = t :: rest → (t.ty = .number ∨ t.ty = .colon) →
      parseIndexExpression (N := N) p = .ok (right, p1) → R tbl (.pis n right p1) o → R tbl (.led .lbracket n p) o
  | ledBracketStar {n p s rb rest r p1} : p.after = s :: rb :: rest → s.ty = .star → rb.ty = .rbracket →
      R tbl (.prhs tbl.ledBracketStar p.advance.advance) (.node r p1) → R tbl (.led .lbracket n p) (.node (.proj n r) p1)
  | pisSlice {l r p rhs p1} : isSliceNode r = true → R tbl (.prhs tbl.sliceProj p) (.node rhs p1) →
      R tbl (.pis l r p) (.node (.proj (.indexExpr l r) rhs) p1)
  | pisIndex {l r p} : isSliceNode r = false → R tbl (.pis l r p) (.node (.indexExpr l r) p)
  | filterFlat {n p cond p1 rb t rest} : R tbl (.expr tbl.filterCond p) (.node cond p1) → p1.after = rb :: t :: rest →
      rb.ty = .rbracket → t.ty = .flatten → R tbl (.filter n p) (.node (.filterProj n .identity cond) p1.advance)
  | filterRhs {n p cond p1 rb t rest r p2} : R tbl (.expr tbl.filterCond p) (.node cond p1) → p1.after = rb :: t :: rest →
      rb.ty = .rbracket → t.ty ≠ .flatten → R tbl (.prhs tbl.filterRhs p1.advance) (.node r p2) →
      R tbl (.filter n p) (.node (.filterProj n r cond) p2)
  | prhsId {bp p t rest} : p.after = t :: rest → tbl.power t.ty < tbl.projStop → R tbl (.prhs bp p) (.node .identity p)
  | prhsBracket {bp p t rest o} : p.after = t :: rest → ¬ tbl.power t.ty < tbl.projStop → (t.ty = .lbracket ∨ t.ty = .filter) →
      R tbl (.expr bp p) o → R tbl (.prhs bp p) o
  | prhsDot {bp p t rest o} : p.after = t :: rest → ¬ tbl.power t.ty < tbl.projStop → t.ty = .dot →
      R tbl (.dot bp p.advance) o → R tbl (.prhs bp p) o
  | dotStar {bp p t rest o} : p.after = t :: rest → t.ty = .star → R tbl (.expr bp p) o → R tbl (.dot bp p) o

def oofMsg : String := "parser model: out of fuel"

def Yields (tbl : ParserTable) (c : Call N) (o : Out N) : Prop :=
  ∀ fuel, run tbl fuel c = .ok o ∨ run tbl fuel c = .panic oofMsg

section
omit [NumOps N]

theorem toOutN_ok {r : Res (Node N × PState)} {n p} : toOutN r = .ok (.node n p) ↔ r = .ok (n, p) := by
  rcases r with ⟨_, _⟩ | _ | _ <;> simp [toOutN]

theorem toOutN_panic {r : Res (Node N × PState)} {s} : toOutN r = .panic s ↔ r = .panic s := by
  rcases r with ⟨_, _⟩ | _ | _ <;> simp [toOutN]

theorem toOutA_ok {r : Res (List (Bool × Node N) × PState)} {a p} : toOutA r = .ok (.args a p) ↔ r = .ok (a, p) := by
  rcases r with ⟨_, _⟩ | _ | _ <;> simp [toOutA]

theorem toOutA_panic {r : Res (List (Bool × Node N) × PState)} {s} : toOutA r = .panic s ↔ r = .panic s := by
  rcases r with ⟨_, _⟩ | _ | _ <;> simp [toOutA]

theorem toOutN_bind {α} (r : Res α) (k : α → Res (Node N × PState)) : toOutN (r >>= k) = r >>= fun a => toOutN (k a) := by
  cases r <;> rfl

theorem toOutA_bind {α} (r : Res α) (k : α → Res (List (Bool × Node N) × PState)) :
    toOutA (r >>= k) = r >>= fun a => toOutA (k a) := by
  cases r <;> rfl

end

section
variable {p : PState} {t : Token} {rest : List Token} (h : p.after = t :: rest)
include h

theorem cur_cons : p.cur = .ok t.ty := by simp only [PState.cur, h]
theorem curTok_cons : p.curTok = .ok t := by simp only [PState.curTok, h]
theorem look1_cons {u : Token} {rest' : List Token} (h' : rest = u :: rest') : p.look1 = .ok u.ty := by
  simp only [PState.look1, h, h']
theorem advance_of_cons : p.advance = ⟨t :: p.before, rest⟩ := by simp only [PState.advance, h]
theorem advance_after_cons : p.advance.after = rest := by rw [advance_of_cons h]
theorem expect_cons {ty : TokType} (hty : t.ty = ty) : p.expect ty = .ok p.advance := by
  simp only [PState.expect, h, hty, if_true]

end

theorem curTok_eq_ok {p : PState} {t : Token} : p.curTok = .ok t ↔ ∃ rest, p.after = t :: rest := by
  unfold PState.curTok; split <;> simp [*, oob]

theorem cur_eq_ok {p : PState} {ty : TokType} : p.cur = .ok ty ↔ ∃ t rest, p.after = t :: rest ∧ t.ty = ty := by
  unfold PState.cur; split <;> simp [*, oob]

theorem look1_eq_ok {p : PState} {ty : TokType} : p.look1 = .ok ty ↔ ∃ t u rest, p.after = t :: u :: rest ∧ u.ty = ty := by
  unfold PState.look1
  split
  · simp [*, and_assoc]
  · rename_i hno
    exact ⟨nofun, fun ⟨t, u, rest, h, _⟩ => (hno t u rest h).elim⟩

theorem expect_eq_ok {p p' : PState} {ty : TokType} :
    p.expect ty = .ok p' ↔ ∃ t rest, p.after = t :: rest ∧ t.ty = ty ∧ p' = p.advance := by
  unfold PState.expect
  split
  · rename_i t rest h
    split
    · simp [*, and_assoc, eq_comm]
    · rename_i hne
      exact ⟨nofun, fun ⟨_, _, h', hty, _⟩ => by rw [h] at h'; cases h'; exact (hne hty).elim⟩
  · simp [*, oob]

theorem PState.syntaxError_ne_ok {α} {p : PState} {a : α} : (p.syntaxError : Res α) ≠ .ok a := by
  unfold PState.syntaxError; split <;> exact fun h => nomatch h

/-- `led` at a comparator, for a token type that is only known to be one. -/
theorem led_cmp {tbl : ParserTable} {f : Nat} {ty : TokType} {op : Cmp} (hop : Cmp.ofTok ty = some op) (n : Node N) (p : PState) :
    led tbl (f + 1) ty n p =
      (do let (right, p) ← parseExpression tbl f ((tbl.ledCmp.lookup ty).getD 0) p
          .ok (.cmp op n right, p)) := by
  cases ty <;> cases hop <;> simp only [led, Cmp.ofTok]

omit [NumOps N] in
theorem index_cons {p : PState} {n rb : Token} {rest : List Token} {i : Int} (h : p.after = n :: rb :: rest) (hn : n.ty = .number)
    (hrb : rb.ty = .rbracket) (hat : atoi n.value = some i) :
    parseIndexExpression (N := N) p = .ok (.index i, p.advance.advance) := by
  simp only [parseIndexExpression, cur_cons h, curTok_cons h, look1_cons h rfl, Res.bind_ok, hn, hrb, reduceCtorEq, if_false,
    decide_false, Bool.false_eq_true, hat, expect_cons (advance_after_cons h) hrb]

theorem run_zero (tbl : ParserTable) (c : Call N) : run tbl 0 c = .panic oofMsg := by
  cases c <;>
    simp only [run, parseExpression, ledLoop, nud, led, parseDotRHS, parseMultiSelectList, parseMultiSelectHash, parseArgs,
      parseProjectionRHS, parseFilter, projectIfSlice, toOutN, toOutA, outOfFuel, oofMsg]

def OrOof {α} (r : Res α) (a : α) : Prop := r = .ok a ∨ r = .panic oofMsg

namespace OrOof
variable {α β : Type}

theorem ok {a : α} : OrOof (.ok a) a := .inl rfl

theorem bind {r : Res α} {k : α → Res β} {a : α} {b : β} (h : OrOof r a) (hk : OrOof (k a) b) : OrOof (r >>= k) b := by
  rcases h with rfl | rfl
  · exact hk
  · exact .inr rfl

omit [NumOps N] in
theorem ofN {r : Res (Node N × PState)} {n p} (h : OrOof (toOutN r) (.node n p)) : OrOof r (n, p) :=
  h.imp toOutN_ok.mp toOutN_panic.mp

omit [NumOps N] in
theorem ofA {r : Res (List (Bool × Node N) × PState)} {a p} (h : OrOof (toOutA r) (.args a p)) : OrOof r (a, p) :=
  h.imp toOutA_ok.mp toOutA_panic.mp

theorem of_succ {tbl : ParserTable} {c : Call N} {o : Out N} (h : ∀ f, OrOof (run tbl (f + 1) c) o) :
    ∀ f, OrOof (run tbl f c) o
  | 0 => .inr (run_zero tbl c)
  | f + 1 => h f

end OrOof

theorem pis_index {tbl : ParserTable} {l : Node N} {i : Int} {p : PState} :
    ∀ f, OrOof (toOutN (projectIfSlice tbl f l (.index i) p)) (.node (.indexExpr l (.index i)) p)
  | 0 => .inr (run_zero tbl (.pis l _ p))
  | f + 1 => by simp only [projectIfSlice, isSliceNode, Bool.false_eq_true, if_false]; exact .ok

/-- `Res.bind_ok`, not proved by `rfl`.  `simp only [Res.bind_ok]` uses a `rfl` lemma without leaving a proof step: the kernel then
    has to find that `.ok a >>= k` is `k a` by unfolding, and where `k a` is a call of a parse function (a definition by
    well-founded recursion) it unfolds that first.  With this lemma `simp` records the step. -/
theorem bind_ok_rw {α β : Type} (a : α) (k : α → Res β) : (Res.ok a >>= k) = k a := Res.bind_ok a k

theorem R_sound (tbl : ParserTable) {c : Call N} {o : Out N} (h : R tbl c o) : Yields tbl c o := by
  change ∀ f, OrOof (run tbl f c) o
  induction h with (refine .of_succ fun _ => ?_; dsimp only [run])
  | expr hafter _ _ ih1 ih2 =>
    simp only [parseExpression, curTok_cons hafter, bind_ok_rw, toOutN_bind]
    exact (ih1 _).ofN.bind (ih2 _)
  | stop hafter hnot =>
    simp only [ledLoop, cur_cons hafter, bind_ok_rw, if_neg hnot]
    exact .ok
  | step hafter hlt _ _ ih1 ih2 =>
    simp only [ledLoop, cur_cons hafter, bind_ok_rw, if_pos hlt, toOutN_bind]
    exact (ih1 _).ofN.bind (ih2 _)
  | nudJson hty hdec =>
    simp only [nud, hty, hdec]
    exact .ok
  | nudRaw hty | nudIdent hty | nudCurrent hty =>
    simp only [nud, hty]
    exact .ok
  | nudQuoted hty hafter hne =>
    simp only [nud, hty, cur_cons hafter, bind_ok_rw, if_neg hne]
    exact .ok
  | nudNot hty _ ih | nudFlatten hty _ ih =>
    simp only [nud, hty, toOutN_bind]
    exact (ih _).ofN.bind .ok
  | nudParen hty _ hafter hrp ih =>
    simp only [nud, hty, toOutN_bind]
    refine (ih _).ofN.bind ?_
    simp only [expect_cons hafter hrp, bind_ok_rw]
    exact .ok
  | nudIndex hty hafter hnum hrb hat =>
    simp only [nud, hty, cur_cons hafter, bind_ok_rw, hnum, true_or, if_true, index_cons hafter hnum hrb hat]
    exact pis_index _
  | nudList hty hafter h1 h2 h3 _ ih =>
    simp only [nud, hty, cur_cons hafter, bind_ok_rw, h1, h2, h3, or_self, if_false, Bool.false_eq_true]
    exact ih _
  | nudHash hty _ ih | nudFilter hty _ ih =>
    simp only [nud, hty]
    exact ih _
  | ledDot hafter hns _ ih =>
    simp only [led, cur_cons hafter, bind_ok_rw, if_pos hns, toOutN_bind]
    exact (ih _).ofN.bind .ok
  | ledPipe _ ih | ledOr _ ih | ledAnd _ ih | ledFlatten _ ih =>
    simp only [led, toOutN_bind]
    exact (ih _).ofN.bind .ok
  | ledCmp hop _ ih =>
    simp only [led_cmp hop, toOutN_bind]
    exact (ih _).ofN.bind .ok
  | ledCall0 hbef hprev hafter hrp =>
    unfold led
    simp only [hbef, hprev, if_true, cur_cons hafter, hrp, bind_ok_rw, expect_cons hafter hrp]
    exact .ok
  | ledCall hbef hprev hafter hnr _ hafter1 hrp ih =>
    unfold led
    simp only [hbef, hprev, if_true, cur_cons hafter, if_neg hnr, bind_ok_rw, toOutN_bind]
    refine (ih _).ofA.bind ?_
    simp only [expect_cons hafter1 hrp, bind_ok_rw]
    exact .ok
  | ledIndex hafter hnum hrb hat =>
    simp only [led, cur_cons hafter, bind_ok_rw, hnum, true_or, if_true, index_cons hafter hnum hrb hat]
    exact pis_index _
  | dotIdent hafter hty _ ih =>
    simp only [parseDotRHS, cur_cons hafter, bind_ok_rw, ← or_assoc, hty, true_or, if_true]
    exact ih _
  | dotList hafter hty _ ih | dotHash hafter hty _ ih | dotStar hafter hty _ ih =>
    simp only [parseDotRHS, cur_cons hafter, bind_ok_rw, hty, reduceCtorEq, or_self, or_true, if_false, if_true]
    exact ih _
  | mslLast _ hafter hrb ih =>
    simp only [parseMultiSelectList, toOutN_bind]
    refine (ih _).ofN.bind ?_
    simp only [cur_cons hafter, bind_ok_rw, hrb, if_true, expect_cons hafter hrb]
    exact .ok
  | mslMore _ hafter hcm _ ih1 ih2 =>
    simp only [parseMultiSelectList, toOutN_bind]
    refine (ih1 _).ofN.bind ?_
    simp only [cur_cons hafter, bind_ok_rw, hcm, reduceCtorEq, if_false, expect_cons hafter hcm]
    exact ih2 _
  | mshLast hafter hk hcol _ hafter2 hrb ih =>
    simp only [parseMultiSelectHash, curTok_cons hafter, bind_ok_rw, hk, if_true,
      expect_cons (advance_after_cons hafter) hcol, toOutN_bind]
    refine (ih _).ofN.bind ?_
    simp only [cur_cons hafter2, bind_ok_rw, hrb, reduceCtorEq, if_false, if_true]
    exact .ok
  | mshMore hafter hk hcol _ hafter2 hcm _ ih1 ih2 =>
    simp only [parseMultiSelectHash, curTok_cons hafter, bind_ok_rw, hk, if_true,
      expect_cons (advance_after_cons hafter) hcol, toOutN_bind]
    refine (ih1 _).ofN.bind ?_
    simp only [cur_cons hafter2, bind_ok_rw, hcm, if_true]
    exact ih2 _
  | argPlainLast hafter h0 _ hafter1 hrp ih | argRefLast hafter h0 _ hafter1 hrp ih =>
    simp only [parseArgs, cur_cons hafter, bind_ok_rw, h0, ne_eq, not_true_eq_false, not_false_eq_true, if_true, if_false,
      toOutA_bind]
    refine .bind (.bind (ih _).ofN .ok) ?_
    simp only [cur_cons hafter1, bind_ok_rw, hrp, if_true]
    exact .ok
  | argPlainMore hafter h0 _ hafter1 hcm hafter2 hnr _ ih1 ih2 | argRefMore hafter h0 _ hafter1 hcm hafter2 hnr _ ih1 ih2 =>
    simp only [parseArgs, cur_cons hafter, bind_ok_rw, h0, ne_eq, not_true_eq_false, not_false_eq_true, if_true, if_false,
      toOutA_bind]
    refine .bind (.bind (ih1 _).ofN .ok) ?_
    simp only [cur_cons hafter1, bind_ok_rw, hcm, reduceCtorEq, if_false, expect_cons hafter1 hcm, cur_cons hafter2, if_neg hnr,
      toOutA_bind]
    exact (ih2 _).ofA.bind .ok
  | nudStarR hty hafter hrb =>
    simp only [nud, hty, cur_cons hafter, bind_ok_rw, hrb, if_true]
    exact .ok
  | nudStar hty hafter hnrb _ ih =>
    simp only [nud, hty, cur_cons hafter, bind_ok_rw, if_neg hnrb, toOutN_bind]
    exact (ih _).ofN.bind .ok
  | nudBracketIdx hty hafter hnc hidx _ ih =>
    simp only [nud, hty, cur_cons hafter, bind_ok_rw, if_pos hnc, hidx]
    exact ih _
  | nudBracketStar hty hafter hs hrb _ ih =>
    simp only [nud, hty, cur_cons hafter, hs, bind_ok_rw, reduceCtorEq, or_self, if_false, if_true, look1_cons hafter rfl,
      decide_eq_true_eq, if_pos hrb, toOutN_bind]
    exact (ih _).ofN.bind .ok
  | nudListStar hty hafter hs hnrb _ ih =>
    simp only [nud, hty, cur_cons hafter, hs, bind_ok_rw, reduceCtorEq, or_self, if_false, if_true, look1_cons hafter rfl,
      decide_eq_true_eq, if_neg hnrb]
    exact ih _
  | ledDotStar hafter hs _ ih =>
    simp only [led, cur_cons hafter, bind_ok_rw, hs, ne_eq, not_true_eq_false, if_false, toOutN_bind]
    exact (ih _).ofN.bind .ok
  | ledFilter _ ih =>
    simp only [led]
    exact ih _
  | ledBracketIdx hafter hnc hidx _ ih =>
    simp only [led, cur_cons hafter, bind_ok_rw, if_pos hnc, hidx]
    exact ih _
  | ledBracketStar hafter hs hrb _ ih =>
    simp only [led, cur_cons hafter, hs, bind_ok_rw, reduceCtorEq, or_self, if_false, expect_cons hafter hs,
      expect_cons (advance_after_cons hafter) hrb, toOutN_bind]
    exact (ih _).ofN.bind .ok
  | pisSlice hsl _ ih =>
    simp only [projectIfSlice, hsl, if_true, toOutN_bind]
    exact (ih _).ofN.bind .ok
  | pisIndex hsl =>
    simp only [projectIfSlice, hsl, Bool.false_eq_true, if_false]
    exact .ok
  | filterFlat _ hafter hrb hfl ih =>
    simp only [parseFilter, toOutN_bind]
    refine (ih _).ofN.bind ?_
    simp only [expect_cons hafter hrb, bind_ok_rw, cur_cons (advance_after_cons hafter), hfl, if_true]
    exact .ok
  | filterRhs _ hafter hrb hnfl _ ih1 ih2 =>
    simp only [parseFilter, toOutN_bind]
    refine (ih1 _).ofN.bind ?_
    simp only [expect_cons hafter hrb, bind_ok_rw, cur_cons (advance_after_cons hafter), if_neg hnfl,
      toOutN_bind]
    exact (ih2 _).ofN.bind .ok
  | prhsId hafter hlt =>
    simp only [parseProjectionRHS, cur_cons hafter, bind_ok_rw, if_pos hlt]
    exact .ok
  | prhsBracket hafter hnlt hty _ ih =>
    simp only [parseProjectionRHS, cur_cons hafter, bind_ok_rw, if_neg hnlt]
    rcases hty with h | h <;> simp only [h, if_true, reduceCtorEq, if_false] <;> exact ih _
  | prhsDot hafter hnlt hty _ ih =>
    simp only [parseProjectionRHS, cur_cons hafter, bind_ok_rw, hty, if_neg (hty ▸ hnlt), reduceCtorEq, if_false, if_true]
    exact ih _

section
variable {tbl : ParserTable} {k : Nat} {p p1 : PState} {o : Out N} {t u : Token} {rest : List Token}

theorem ne_eof {ty : TokType} (h : t.ty = ty) (hne : ty ≠ .eof := by decide) : t.ty ≠ .eof := h ▸ hne

theorem nud_ne_eof {tok : Token} (h : R tbl (.nud tok p) o) : tok.ty ≠ .eof := by
  intro e
  -- every `nud` constructor of `R` carries `tok.ty = …`, none of them `eof`
  cases h <;> simp_all

theorem led_ne_eof {ty : TokType} {l : Node N} (h : R tbl (.led ty l p) o) : ty ≠ .eof := by
  intro e
  -- the `led` constructors fix the token type, or say it is a comparator
  cases h <;> simp_all [Cmp.ofTok]

theorem expr_head (h : R tbl (.expr k p) o) (ha : p.after = t :: rest) : t.ty ≠ .eof := by
  cases h with
  | expr ha' hnud _ => rw [ha] at ha'; cases ha'; exact nud_ne_eof hnud

theorem args_head (h : R tbl (.args p) o) (ha : p.after = t :: rest) : t.ty ≠ .eof := by
  cases h with
  | argPlainLast _ _ he _ _ | argPlainMore _ _ he _ _ _ _ _ => exact expr_head he ha
  | argRefLast ha' hty _ _ _ | argRefMore ha' hty _ _ _ _ _ _ => rw [ha] at ha'; cases ha'; exact ne_eof hty

theorem prhs_at_eof {r : Node N} (h : R tbl (.prhs k p) (.node r p1)) (ha : p.after = t :: rest) (ht : t.ty = .eof) :
    r = .identity ∧ p1 = p := by
  cases h with
  | prhsId _ _ => exact ⟨rfl, rfl⟩
  | prhsBracket ha2 _ hty2 _ =>
    rw [ha] at ha2; injection ha2 with e1 _; rw [← e1, ht] at hty2; rcases hty2 with h | h <;> cases h
  | prhsDot ha2 _ hty2 _ =>
    rw [ha] at ha2; injection ha2 with e1 _; rw [← e1, ht] at hty2; cases hty2

theorem expr_star_eof {e : Node N} (h : R tbl (.expr k p) (.node e p1)) (ha : p.after = t :: u :: rest) (ht : t.ty = .star)
    (hu : u.ty = .eof) : p1.after = u :: rest := by
  cases h with
  | @expr _ _ tok rest0 left p2 _ hafter hnud hloop =>
  rw [ha] at hafter; cases hafter
  have ha2 := advance_after_cons ha
  have hp2 : p2 = p.advance := by
    cases hnud with
    | nudStarR _ _ _ => rfl
    | nudStar _ _ _ hprhs => exact (prhs_at_eof hprhs ha2 hu).2
    | _ => simp_all  -- the other `nud` constructors are not at a `*`
  subst hp2
  cases hloop with
  | stop _ _ => exact ha2
  | step ha3 _ hled _ => rw [ha2] at ha3; cases ha3; exact absurd hu (led_ne_eof hled)

theorem msl_star_eof {acc : List (Node N)} (h : R tbl (.msl p acc) o) (ha : p.after = t :: u :: rest) (ht : t.ty = .star) :
    u.ty ≠ .eof := by
  intro hu
  cases h with
  | mslLast he ha1 hty | mslMore he ha1 hty _ => rw [expr_star_eof he ha ht hu] at ha1; cases ha1; rw [hu] at hty; cases hty

end

end Jmes.Parser
