/-
  Proofs.GenIndex — the clauses that tools/gotolean translates from /repo's source on every run besides the slice
  arithmetic compute what the model computes: the index clause of `Execute` (interpreter.go, `case ASTIndex:` on a
  `[]interface{}`; `GenSlice.indexSel` selects the position `indexArr` reads), util.go's `isFalse`, and the comparator
  clause (`case ASTComparator:`).
-/
import Jmes.GeneratedSlice
import Jmes.Interp
namespace Jmes
open Jmes.Slice

/-- On the domain the code runs on: `length` is the `len` of a Go slice, the index comes from `strconv.Atoi`. -/
theorem gen_indexSel_eq {length i : Int} (hl0 : 0 ≤ length) (hl1 : length ≤ 9223372036854775807)
    (hi : -9223372036854775808 ≤ i ∧ i ≤ 9223372036854775807) :
    GenSlice.indexSel length i =
      (if i < 0 then (if 0 ≤ i + length then some (i + length) else none)
       else (if i < length then some i else none)) := by
  unfold GenSlice.indexSel wrap64
  simp only [decide_eq_true_eq, Bool.and_eq_true, ge_iff_le]
  repeat' split
  all_goals first | rfl | (simp only [Option.some.injEq]; omega) | omega

theorem gen_index_is_indexArr {N : Type} {xs : List (Val N)} {i : Int} (hlen : (xs.length : Int) ≤ 9223372036854775807)
    (hi : -9223372036854775808 ≤ i ∧ i ≤ 9223372036854775807) :
    Interp.indexArr xs i = (match GenSlice.indexSel xs.length i with
      | some k => xs.getD k.toNat .null
      | none => .null) := by
  rw [gen_indexSel_eq (by omega) hlen hi]
  unfold Interp.indexArr
  by_cases h : i < 0 <;> simp only [h, if_true, if_false]
  · by_cases h2 : 0 ≤ i + (xs.length : Int)
    · rw [if_pos h2, if_pos ⟨by omega, h2⟩]
    · rw [if_neg h2, if_neg (by omega)]
  · by_cases h2 : i < (xs.length : Int)
    · rw [if_pos h2, if_pos ⟨h2, by omega⟩]
    · rw [if_neg h2, if_neg (by omega)]

theorem gen_isFalse_eq {N : Type} (v : Val N) : GenSlice.isFalse v = Val.isFalse v := by
  cases v with
  | null | num _ => simp [GenSlice.isFalse, Val.isFalse]
  | bool b => cases b <;> simp [GenSlice.isFalse, Val.isFalse]
  -- what is left for `omega` is the content of the three length clauses: a list with an element has length ≠ 0
  | str l | arr l | obj l => cases l <;> simp [GenSlice.isFalse, Val.isFalse] <;> omega

theorem gen_compareVals_eq {N : Type} [NumOps N] (op : Cmp) (l r : Val N) :
    GenSlice.compareVals op l r = Interp.compareVals op l r := by
  cases op <;> cases l <;> cases r <;> rfl

end Jmes
