/-
  Proofs.ParserComplete — the relational description `R` is complete: every
  successful run of the fuel-based parser model is an `R` derivation.  With
  `R_sound` this makes `R` THE description of what the parser accepts and
  which AST it builds.
-/
import Proofs.ParserRel
namespace Jmes.Parser
variable {N : Type} [NumOps N]

omit [NumOps N] in
theorem of_toOutN {r : Res (Node N × PState)} {o : Out N} {P : Out N → Prop} (h : toOutN r = .ok o)
    (hP : ∀ n p, r = .ok (n, p) → P (.node n p)) : P o := by
  rcases r with ⟨n, p⟩ | _ | _ <;> cases h
  exact hP n p rfl

omit [NumOps N] in
theorem of_toOutA {r : Res (List (Bool × Node N) × PState)} {o : Out N} {P : Out N → Prop} (h : toOutA r = .ok o)
    (hP : ∀ a p, r = .ok (a, p) → P (.args a p)) : P o := by
  rcases r with ⟨a, p⟩ | _ | _ <;> cases h
  exact hP a p rfl

theorem of_ite {α} {c : Prop} [Decidable c] {a b v : α} (h : (if c then a else b) = v) : c ∧ a = v ∨ ¬c ∧ b = v := by
  split at h
  · exact .inl ⟨‹_›, h⟩
  · exact .inr ⟨‹_›, h⟩

theorem oof_ne_ok {α} {a : α} : (outOfFuel : Res α) ≠ .ok a := by simp [outOfFuel]

theorem R_complete (tbl : ParserTable) : ∀ (fuel : Nat) (c : Call N) (o : Out N), run tbl fuel c = .ok o → R tbl c o := by
  intro fuel
  induction fuel with
  | zero =>
    intro c o h
    rw [run_zero] at h
    cases h
  | succ f ih =>
    -- `ih` at a sub-call: the call `c` comes from the constructor of `R` being applied, and `rfl` checks that its `run`
    -- wraps the function that returned `r`
    have ihN {c : Call N} {r : Res (Node N × PState)} {n p} (h : r = .ok (n, p)) (hc : run tbl f c = toOutN r := by rfl) :
        R tbl c (.node n p) := ih c _ (hc ▸ toOutN_ok.mpr h)
    have ihA {c : Call N} {r : Res (List (Bool × Node N) × PState)} {a p} (h : r = .ok (a, p))
        (hc : run tbl f c = toOutA r := by rfl) : R tbl c (.args a p) := ih c _ (hc ▸ toOutA_ok.mpr h)
    intro c o h
    -- `simp only [.., Res.bind_eq_ok, cur_eq_ok, ..]` turns the straight-line start of the function's body into one
    -- `∃ .. ∧ ..`, `of_ite` follows its tests, and a test that ends in `syntaxError` cannot have succeeded.
    cases c with
    | expr bp p =>
      refine of_toOutN h fun n p2 h => ?_
      simp only [parseExpression, Res.bind_eq_ok, curTok_eq_ok] at h
      obtain ⟨tok, ⟨rest, hafter⟩, ⟨left, p1⟩, hnud, h⟩ := h
      exact R.expr hafter (ihN hnud) (ihN h)
    | loop bp l p =>
      refine of_toOutN h fun n p2 h => ?_
      simp only [ledLoop, Res.bind_eq_ok, cur_eq_ok] at h
      obtain ⟨_, ⟨t, rest, hafter, rfl⟩, h⟩ := h
      rcases of_ite h with ⟨hlt, h⟩ | ⟨hlt, h⟩
      · obtain ⟨⟨left', p1⟩, hled, h⟩ := Res.bind_eq_ok.mp h
        exact R.step hafter hlt (ihN hled) (ihN h)
      · cases h
        exact R.stop hafter hlt
    | nud tok p =>
      refine of_toOutN h fun n p3 h => ?_
      cases hty : tok.ty <;> simp only [nud, hty] at h
      case jsonLiteral =>
        split at h
        · cases h
        · cases h
          exact R.nudJson hty ‹_›
      case stringLiteral => cases h; exact R.nudRaw hty
      case uident => cases h; exact R.nudIdent hty
      case qident =>
        simp only [Res.bind_eq_ok, cur_eq_ok] at h
        obtain ⟨_, ⟨t, rest, hafter, rfl⟩, h⟩ := h
        rcases of_ite h with ⟨_, h⟩ | ⟨hne, h⟩
        · cases h
        · cases h
          exact R.nudQuoted hty hafter hne
      case star =>
        simp only [Res.bind_eq_ok, cur_eq_ok] at h
        obtain ⟨_, ⟨t, rest, hafter, rfl⟩, h⟩ := h
        rcases of_ite h with ⟨hrb, h⟩ | ⟨hrb, h⟩
        · cases h
          exact R.nudStarR hty hafter hrb
        · obtain ⟨⟨r, p1⟩, hr, h⟩ := Res.bind_eq_ok.mp h
          cases h
          exact R.nudStar hty hafter hrb (ihN hr)
      case filter => exact R.nudFilter hty (ihN h)
      case lbrace => exact R.nudHash hty (ihN h)
      case flatten =>
        obtain ⟨⟨r, p1⟩, hr, h⟩ := Res.bind_eq_ok.mp h
        cases h
        exact R.nudFlatten hty (ihN hr)
      case lbracket =>
        simp only [Res.bind_eq_ok, cur_eq_ok] at h
        obtain ⟨_, ⟨t, rest, hafter, rfl⟩, h⟩ := h
        rcases of_ite h with ⟨hnc, h⟩ | ⟨hnc, h⟩
        · obtain ⟨⟨right, p1⟩, hidx, h⟩ := Res.bind_eq_ok.mp h
          exact R.nudBracketIdx hty hafter hnc hidx (ihN h)
        · obtain ⟨isStar, hstar, h⟩ := Res.bind_eq_ok.mp h
          rcases of_ite hstar with ⟨hs, hstar⟩ | ⟨hs, hstar⟩
          · simp only [Res.bind_eq_ok, look1_eq_ok] at hstar
            obtain ⟨_, ⟨t', u, rest', hafter', rfl⟩, hstar⟩ := hstar
            cases hafter.symm.trans hafter'
            cases hstar
            by_cases hrb : u.ty = .rbracket
            · simp only [hrb, decide_true, if_true] at h
              obtain ⟨⟨r, p1⟩, hr, h⟩ := Res.bind_eq_ok.mp h
              cases h
              exact R.nudBracketStar hty hafter hs hrb (ihN hr)
            · simp only [hrb, decide_false, Bool.false_eq_true, if_false] at h
              exact R.nudListStar hty hafter hs hrb (ihN h)
          · cases hstar
            exact R.nudList hty hafter (fun e => hnc (.inl e)) (fun e => hnc (.inr e)) hs (ihN h)
      case current => cases h; exact R.nudCurrent hty
      case not =>
        obtain ⟨⟨e, p1⟩, he, h⟩ := Res.bind_eq_ok.mp h
        cases h
        exact R.nudNot hty (ihN he)
      case lparen =>
        simp only [Res.bind_eq_ok, expect_eq_ok] at h
        obtain ⟨⟨e, p1⟩, he, _, ⟨t, rest, hafter, hrp, rfl⟩, h⟩ := h
        cases h
        exact R.nudParen hty (ihN he) hafter hrp
      -- every other token type: `nud` returns an error
      all_goals cases h
    | led ty l p =>
      refine of_toOutN h fun n p3 h => ?_
      unfold led at h
      split at h
      · simp only [Res.bind_eq_ok, cur_eq_ok] at h
        obtain ⟨_, ⟨t, rest, hafter, rfl⟩, h⟩ := h
        rcases of_ite h with ⟨hs, h⟩ | ⟨hs, h⟩ <;> obtain ⟨⟨r, p1⟩, hr, h⟩ := Res.bind_eq_ok.mp h <;> cases h
        · exact R.ledDot hafter hs (ihN hr)
        · exact R.ledDotStar hafter (Decidable.of_not_not hs) (ihN hr)
      · obtain ⟨⟨r, p1⟩, hr, h⟩ := Res.bind_eq_ok.mp h
        cases h
        exact R.ledPipe (ihN hr)
      · obtain ⟨⟨r, p1⟩, hr, h⟩ := Res.bind_eq_ok.mp h
        cases h
        exact R.ledOr (ihN hr)
      · obtain ⟨⟨r, p1⟩, hr, h⟩ := Res.bind_eq_ok.mp h
        cases h
        exact R.ledAnd (ihN hr)
      · split at h
        · rename_i name lp prev more hbef _
          rcases of_ite h with ⟨hprev, h⟩ | ⟨_, h⟩
          · simp only [Res.bind_eq_ok, cur_eq_ok, expect_eq_ok] at h
            obtain ⟨_, ⟨t0, rest0, hafter0, rfl⟩, ⟨as, p1⟩, has, _, ⟨t, rest, hafter, hrp, rfl⟩, h⟩ := h
            cases h
            rcases of_ite has with ⟨hrp0, has⟩ | ⟨hrp0, has⟩
            · cases has
              exact R.ledCall0 hbef hprev hafter0 hrp0
            · exact R.ledCall hbef hprev hafter0 hrp0 (ihA has) hafter hrp
          · cases h
        · cases h
        · cases h
      · exact R.ledFilter (ihN h)
      · obtain ⟨⟨r, p1⟩, hr, h⟩ := Res.bind_eq_ok.mp h
        cases h
        exact R.ledFlatten (ihN hr)
      · simp only [Res.bind_eq_ok, cur_eq_ok] at h
        obtain ⟨_, ⟨t, rest, hafter, rfl⟩, h⟩ := h
        rcases of_ite h with ⟨hnc, h⟩ | ⟨_, h⟩
        · obtain ⟨⟨right, p1⟩, hidx, h⟩ := Res.bind_eq_ok.mp h
          exact R.ledBracketIdx hafter hnc hidx (ihN h)
        · simp only [Res.bind_eq_ok, expect_eq_ok] at h
          obtain ⟨_, ⟨s, rest1, hafter1, hs, rfl⟩, _, ⟨rb, rest2, hafter2, hrb, rfl⟩, ⟨r, p4⟩, hr, h⟩ := h
          cases hafter.symm.trans hafter1
          rw [advance_after_cons hafter] at hafter2
          subst hafter2
          cases h
          exact R.ledBracketStar hafter hs hrb (ihN hr)
      · -- a comparator; for every other token type `led` is a syntax error
        split at h
        · rename_i op hop
          obtain ⟨⟨r, p1⟩, hr, h⟩ := Res.bind_eq_ok.mp h
          cases h
          exact R.ledCmp hop (ihN hr)
        · exact (PState.syntaxError_ne_ok h).elim
    | dot bp p =>
      refine of_toOutN h fun n p2 h => ?_
      simp only [parseDotRHS, Res.bind_eq_ok, cur_eq_ok] at h
      obtain ⟨_, ⟨t, rest, hafter, rfl⟩, h⟩ := h
      rcases of_ite h with ⟨hq | hu | hs, h⟩ | ⟨_, h⟩
      · exact R.dotIdent hafter (.inl hq) (ihN h)
      · exact R.dotIdent hafter (.inr hu) (ihN h)
      · exact R.dotStar hafter hs (ihN h)
      rcases of_ite h with ⟨hlb, h⟩ | ⟨_, h⟩
      · exact R.dotList hafter hlb (ihN h)
      rcases of_ite h with ⟨hbr, h⟩ | ⟨_, h⟩
      · exact R.dotHash hafter hbr (ihN h)
      exact (PState.syntaxError_ne_ok h).elim
    | msl p acc =>
      refine of_toOutN h fun n p3 h => ?_
      simp only [parseMultiSelectList, Res.bind_eq_ok, cur_eq_ok] at h
      obtain ⟨⟨e, p1⟩, he, _, ⟨t, rest, hafter, rfl⟩, h⟩ := h
      rcases of_ite h with ⟨hrb, h⟩ | ⟨_, h⟩
      · simp only [Res.bind_eq_ok, expect_eq_ok] at h
        obtain ⟨_, ⟨_, _, _, _, rfl⟩, h⟩ := h
        cases h
        exact R.mslLast (ihN he) hafter hrb
      · simp only [Res.bind_eq_ok, expect_eq_ok] at h
        obtain ⟨_, ⟨t', _, hafter', hcm, rfl⟩, h⟩ := h
        cases hafter.symm.trans hafter'
        exact R.mslMore (ihN he) hafter hcm (ihN h)
    | msh p acc =>
      refine of_toOutN h fun n p3 h => ?_
      simp only [parseMultiSelectHash, Res.bind_eq_ok, curTok_eq_ok] at h
      obtain ⟨k, ⟨rest0, hafter0⟩, h⟩ := h
      rcases of_ite h with ⟨hkty, h⟩ | ⟨_, h⟩
      · simp only [Res.bind_eq_ok, expect_eq_ok, cur_eq_ok] at h
        obtain ⟨_, ⟨c, rest1, hafter1, hc, rfl⟩, ⟨v, p2⟩, hv, _, ⟨t, rest, hafter2, rfl⟩, h⟩ := h
        rw [advance_after_cons hafter0] at hafter1
        subst hafter1
        rcases of_ite h with ⟨hcm, h⟩ | ⟨_, h⟩
        · exact R.mshMore hafter0 hkty hc (ihN hv) hafter2 hcm (ihN h)
        rcases of_ite h with ⟨hrb, h⟩ | ⟨_, h⟩
        · cases h
          exact R.mshLast hafter0 hkty hc (ihN hv) hafter2 hrb
        exact (PState.syntaxError_ne_ok h).elim
      · exact (PState.syntaxError_ne_ok h).elim
    | args p =>
      refine of_toOutA h fun a p3 h => ?_
      simp only [parseArgs, Res.bind_eq_ok, cur_eq_ok] at h
      -- `harg`, the first argument (plain or after `&`), is looked at last: what follows it does not depend on its kind
      obtain ⟨_, ⟨t0, rest0, hafter0, rfl⟩, ⟨arg, p1⟩, harg, _, ⟨t, rest, hafter1, rfl⟩, h⟩ := h
      rcases of_ite h with ⟨hrp, h⟩ | ⟨_, h⟩
      · cases h
        rcases of_ite harg with ⟨h0, harg⟩ | ⟨h0, harg⟩ <;> obtain ⟨⟨e, _⟩, he, harg⟩ := Res.bind_eq_ok.mp harg <;> cases harg
        · exact R.argPlainLast hafter0 h0 (ihN he) hafter1 hrp
        · exact R.argRefLast hafter0 (Decidable.of_not_not h0) (ihN he) hafter1 hrp
      · simp only [Res.bind_eq_ok, expect_eq_ok, cur_eq_ok] at h
        obtain ⟨_, ⟨t', _, hafter', hcm, rfl⟩, _, ⟨t2, rest2, hafter2, rfl⟩, h⟩ := h
        cases hafter1.symm.trans hafter'
        rcases of_ite h with ⟨_, h⟩ | ⟨hnr, h⟩
        · exact (PState.syntaxError_ne_ok h).elim
        · obtain ⟨⟨as, p4⟩, has, h⟩ := Res.bind_eq_ok.mp h
          cases h
          rcases of_ite harg with ⟨h0, harg⟩ | ⟨h0, harg⟩ <;> obtain ⟨⟨e, _⟩, he, harg⟩ := Res.bind_eq_ok.mp harg <;> cases harg
          · exact R.argPlainMore hafter0 h0 (ihN he) hafter1 hcm hafter2 hnr (ihA has)
          · exact R.argRefMore hafter0 (Decidable.of_not_not h0) (ihN he) hafter1 hcm hafter2 hnr (ihA has)
    | prhs bp p =>
      refine of_toOutN h fun n p2 h => ?_
      simp only [parseProjectionRHS, Res.bind_eq_ok, cur_eq_ok] at h
      obtain ⟨_, ⟨t, rest, hafter, rfl⟩, h⟩ := h
      rcases of_ite h with ⟨hlt, h⟩ | ⟨hlt, h⟩
      · cases h
        exact R.prhsId hafter hlt
      rcases of_ite h with ⟨hlb, h⟩ | ⟨_, h⟩
      · exact R.prhsBracket hafter hlt (.inl hlb) (ihN h)
      rcases of_ite h with ⟨hfi, h⟩ | ⟨_, h⟩
      · exact R.prhsBracket hafter hlt (.inr hfi) (ihN h)
      rcases of_ite h with ⟨hdot, h⟩ | ⟨_, h⟩
      · exact R.prhsDot hafter hlt hdot (ihN h)
      exact (PState.syntaxError_ne_ok h).elim
    | filter l p =>
      refine of_toOutN h fun n p3 h => ?_
      simp only [parseFilter, Res.bind_eq_ok, expect_eq_ok, cur_eq_ok] at h
      obtain ⟨⟨cond, p1⟩, hc, _, ⟨rb, rest0, hafter1, hrb, rfl⟩, _, ⟨t, rest, hafter2, rfl⟩, h⟩ := h
      rw [advance_after_cons hafter1] at hafter2
      subst hafter2
      rcases of_ite h with ⟨hfl, h⟩ | ⟨hfl, h⟩
      · cases h
        exact R.filterFlat (ihN hc) hafter1 hrb hfl
      · obtain ⟨⟨r, p4⟩, hr, h⟩ := Res.bind_eq_ok.mp h
        cases h
        exact R.filterRhs (ihN hc) hafter1 hrb hfl (ihN hr)
    | pis l r p =>
      refine of_toOutN h fun n p2 h => ?_
      simp only [projectIfSlice] at h
      rcases of_ite h with ⟨hs, h⟩ | ⟨hs, h⟩
      · obtain ⟨⟨rhs, p1⟩, hr, h⟩ := Res.bind_eq_ok.mp h
        cases h
        exact R.pisSlice hs (ihN hr)
      · cases h
        exact R.pisIndex (eq_false_of_ne_true hs)

/-- The converse, for token lists as the lexer makes them, is `parseTokens_ok_of_R`. -/
theorem R_of_parseTokens_ok (tbl : ParserTable) (toks : List Token) (ast : Node N) :
    parseTokens tbl toks = .ok ast → ∃ p1 t rest, R tbl (.expr tbl.top ⟨[], toks⟩) (.node ast p1) ∧ p1.after = t :: rest ∧ t.ty = .eof := by
  intro h
  simp only [parseTokens, Res.bind_eq_ok, cur_eq_ok] at h
  obtain ⟨⟨e, p1⟩, he, _, ⟨t, rest, hafter, rfl⟩, h⟩ := h
  rcases of_ite h with ⟨_, h⟩ | ⟨heof, h⟩
  · exact (PState.syntaxError_ne_ok h).elim
  · cases h
    exact ⟨p1, t, rest, R_complete tbl _ _ _ (toOutN_ok.mpr he), hafter, Decidable.of_not_not heof⟩

end Jmes.Parser
