/-
  Proofs.Bytes — from bytes to the AST.  The lexer reads back the keys (type and value) of the tokens a byte string
  renders (`tokenize_rendered`), and a successful parse sees of its tokens no more than those keys (`R_transfer`): so
  a rendering of a token list, in any spelling and with any white space, compiles to what the parser makes of the
  tokens, and two renderings of the same tokens compile alike.  `T` is the specification's table (Proofs.SpecTable).
-/
import Proofs.SpecTable
import Proofs.ParserSafe
import Proofs.Sim
import Proofs.LexerRender
namespace Jmes.Parser
open Jmes.Lexer
variable {N : Type} [NumOps N]

theorem parseTokens_toksRel {toks toks' : List Token} {ast : Node N} {total' : Nat}
    (hrel : ToksRel toks toks') (hok' : Lexer.TokensOK total' toks')
    (h : parseTokens T toks = .ok ast) : parseTokens T toks' = .ok ast := by
  obtain ⟨p1, t, rest, hR, hafter, hty⟩ := R_of_parseTokens_ok T toks ast h
  -- the token argument of `Transfers` matters to a `nud` call only
  obtain ⟨p1', hp1, hR'⟩ := R_transfer T hR default ⟨[], toks'⟩ ⟨ToksRel.nil, hrel⟩ (TokRel.refl _)
  obtain ⟨t', rest', ha', htt, _⟩ := hp1.after_cons hafter
  exact parseTokens_ok_of_R rfl hR' ⟨t', rest', ha', htt.ty_eq hty⟩ hok'

/-- the tokens `toks` are the tokens `keys` up to what the parser ignores -/
inductive KeysOf : List Token → List (TokType × Bytes) → Prop
  | nil : KeysOf [] []
  | cons {t : Token} {k : TokType × Bytes} {ts : List Token} {ks : List (TokType × Bytes)} :
      t.ty = k.1 → (valued t.ty = true → t.value = k.2) → KeysOf ts ks → KeysOf (t :: ts) (k :: ks)

theorem toksRel_of_keys {toks lexed : List Token} {keys : List (TokType × Bytes)} (hk : KeysOf toks keys)
    (hl : lexed.map keyOf = keys) {e1 e2 : Token} (he : TokRel e1 e2) : ToksRel (toks ++ [e1]) (lexed ++ [e2]) := by
  subst hl
  induction lexed generalizing toks with
  | nil => cases hk; exact .cons he .nil
  | cons a as ih =>
    cases hk with
    | cons h1 h2 hk => exact .cons ⟨h1, h2⟩ (ih hk)

theorem keysOf_map : ∀ (l : List Token), KeysOf l (l.map keyOf)
  | [] => .nil
  | _ :: l => .cons rfl (fun _ => rfl) (keysOf_map l)

variable {lt : Lexer.Tables}

theorem parseWith_rendered (hT : TablesAscii lt) (hsafe : Lexer.TablesSafe lt) {toks : List Token} {keys : List (TokType × Bytes)}
    {s : Bytes} {ast : Node N} (hk : KeysOf toks keys) (hr : Rendered keys s) {e : Token} (he : e.ty = .eof)
    (hp : parseTokens T (toks ++ [e]) = .ok ast) : parseWith lt T s = .ok ast := by
  obtain ⟨lexed, hl, hkeys⟩ := tokenize_rendered hT hr
  have hok := Lexer.tokenize_ok lt hsafe s
  rw [hl] at hok
  have hrel := toksRel_of_keys hk hkeys (e2 := eofTok s.length) ⟨he, fun h => by rw [he] at h; cases h⟩
  unfold parseWith
  rw [hl]
  exact parseTokens_toksRel hrel hok hp

/-- White space is insignificant, and so is the choice among the spellings of a token. -/
theorem parseWith_same_tokens (hT : TablesAscii lt) (hsafe : Lexer.TablesSafe lt) {keys : List (TokType × Bytes)}
    {s1 s2 : Bytes} {ast : Node N} (h1 : Rendered keys s1) (h2 : Rendered keys s2)
    (hp : parseWith lt T s1 = .ok ast) : parseWith lt T s2 = .ok ast := by
  obtain ⟨l1, hl1, hk1⟩ := tokenize_rendered hT h1
  unfold parseWith at hp
  rw [hl1] at hp
  exact parseWith_rendered hT hsafe (hk1 ▸ keysOf_map l1) h2 rfl hp

end Jmes.Parser
