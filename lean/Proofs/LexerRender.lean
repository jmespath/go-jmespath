/-
  Proofs.LexerRender — the lexer inverts the spelling of tokens, with any white
  space between them: if a byte string is a rendering of a list of tokens
  (each token spelled as the syntax prescribes, separated by arbitrary runs of
  white space, adjacent only where they cannot fuse), `tokenize` returns exactly
  those tokens.  Identifiers, numbers and operators are ASCII by definition; raw
  strings and quoted identifiers may contain any well-formed UTF-8; the text of
  a literal has to be a sequence of `Units` once its backticks are escaped
  (the text `json.Marshal` writes for a value is: Proofs/LiteralToken.lean).
-/
import Proofs.LexerRoundTrip
import Proofs.RawString
import Proofs.JsonString
namespace Jmes.Lexer
open Jmes.Utf8

def isIdStart (c : UInt8) : Bool := (0x41 ≤ c && c ≤ 0x5A) || (0x61 ≤ c && c ≤ 0x7A) || c == 0x5F
def isDigitB (c : UInt8) : Bool := 0x30 ≤ c && c ≤ 0x39
def isIdTrail (c : UInt8) : Bool := isIdStart c || isDigitB c
def isWhiteB (c : UInt8) : Bool := c == 0x20 || c == 0x09 || c == 0x0A || c == 0x0D

/-- the single-character tokens -/
def basicOf (c : UInt8) : Option TokType :=
  if c = 0x2E then some .dot else if c = 0x2A then some .star else if c = 0x2C then some .comma
  else if c = 0x3A then some .colon else if c = 0x7B then some .lbrace else if c = 0x7D then some .rbrace
  else if c = 0x5D then some .rbracket else if c = 0x28 then some .lparen else if c = 0x29 then some .rparen
  else if c = 0x40 then some .current else none

/-- What the character tables say about ASCII (a `decide` obligation on the regenerated tables). -/
def TablesAsciiB (tb : Tables) : Bool :=
  (List.range 128).all fun n =>
    identStart tb.startBits n == isIdStart n.toUInt8
    && (match identTrail tb.trailBits n with | .ok b => b == isIdTrail n.toUInt8 | _ => false)
    && lookupNat n tb.basic == basicOf n.toUInt8
    && tb.white.contains n == isWhiteB n.toUInt8

structure TablesAscii (tb : Tables) : Prop where
  start : ∀ c : UInt8, c < 0x80 → identStart tb.startBits c.toNat = isIdStart c
  trail : ∀ c : UInt8, c < 0x80 → identTrail tb.trailBits c.toNat = .ok (isIdTrail c)
  basic : ∀ c : UInt8, c < 0x80 → lookupNat c.toNat tb.basic = basicOf c
  white : ∀ c : UInt8, c < 0x80 → tb.white.contains c.toNat = isWhiteB c

theorem tablesAscii_of_bool {tb : Tables} (h : TablesAsciiB tb = true) : TablesAscii tb := by
  have hall : ∀ c : UInt8, c < 0x80 →
      identStart tb.startBits c.toNat = isIdStart c ∧ identTrail tb.trailBits c.toNat = .ok (isIdTrail c) ∧
      lookupNat c.toNat tb.basic = basicOf c ∧ tb.white.contains c.toNat = isWhiteB c := by
    intro c hc
    have hn : c.toNat < 128 := UInt8.lt_iff_toNat_lt.mp hc
    have := List.all_eq_true.mp h c.toNat (List.mem_range.mpr hn)
    simp only [Nat.toUInt8_eq, UInt8.ofNat_toNat, Bool.and_eq_true, beq_iff_eq] at this
    obtain ⟨⟨⟨h1, h2⟩, h3⟩, h4⟩ := this
    refine ⟨h1, ?_, h3, h4⟩
    cases ht : identTrail tb.trailBits c.toNat with (rw [ht] at h2)
    | ok b => simp only [beq_iff_eq] at h2; rw [h2]
    | err _ | panic _ => cases h2
  exact ⟨fun c hc => (hall c hc).1, fun c hc => (hall c hc).2.1, fun c hc => (hall c hc).2.2.1, fun c hc => (hall c hc).2.2.2⟩

theorem step_ascii {tb : Tables} {total : Nat} (c : UInt8) {rest : Bytes} (hc : c < 0x80) :
    step tb total (c :: rest) = stepAt tb total c.toNat [c] rest (total - (rest.length + 1)) := by
  simp [step, decode_lt80 c hc]

/-- The byte after a token of type `ty` (`none` at the end of the input) cannot be read as a continuation of it. -/
def Follows (ty : TokType) (next : Option UInt8) : Prop :=
  match ty, next with
  | .uident, some c => isIdTrail c = false
  | .number, some c => isDigitB c = false
  | .lbracket, some c => c ≠ 0x3F ∧ c ≠ 0x5D
  | .pipe, some c => c ≠ 0x7C
  | .lt, some c | .gt, some c | .not, some c => c ≠ 0x3D
  | .expref, some c => c ≠ 0x26
  | _, _ => True

/-- `Spell ty value text`: `text` is a way to write the token `(ty, value)`. -/
inductive Spell : TokType → Bytes → Bytes → Prop
  | basic (c : UInt8) (ty : TokType) : basicOf c = some ty → Spell ty [c] [c]
  | ident (c : UInt8) (v : Bytes) : isIdStart c = true → (∀ x ∈ v, isIdTrail x = true) → Spell .uident (c :: v) (c :: v)
  | number (c : UInt8) (ds : Bytes) : (c = 0x2D ∨ isDigitB c = true) → (∀ x ∈ ds, isDigitB x = true) →
      Spell .number (c :: ds) (c :: ds)
  | lbracket : Spell .lbracket [0x5B] [0x5B]
  | filter : Spell .filter [0x5B, 0x3F] [0x5B, 0x3F]
  | flatten : Spell .flatten [0x5B, 0x5D] [0x5B, 0x5D]
  | or : Spell .or [0x7C, 0x7C] [0x7C, 0x7C]
  | pipe : Spell .pipe [0x7C] [0x7C]
  | lte : Spell .lte [0x3C, 0x3D] [0x3C, 0x3D]
  | lt : Spell .lt [0x3C] [0x3C]
  | gte : Spell .gte [0x3E, 0x3D] [0x3E, 0x3D]
  | gt : Spell .gt [0x3E] [0x3E]
  | ne : Spell .ne [0x21, 0x3D] [0x21, 0x3D]
  | not : Spell .not [0x21] [0x21]
  | eq : Spell .eq [0x3D, 0x3D] [0x3D, 0x3D]
  | and : Spell .and [0x26, 0x26] [0x26, 0x26]
  | expref : Spell .expref [0x26] [0x26]
  | raw (v : Bytes) : Json.ValidUtf8 v → RawEndOK v → Spell .stringLiteral v (0x27 :: (rawSpell v ++ [0x27]))
  | lit (txt : Bytes) : Units 0x60 (btSpell txt) → Spell .jsonLiteral txt (0x60 :: (btSpell txt ++ [0x60]))
  | quoted (body v : Bytes) : Units 0x22 body → Json.unquoteString body = some v → Spell .qident v (0x22 :: (body ++ [0x22]))

theorem spell_text_cons {ty : TokType} {v text : Bytes} (h : Spell ty v text) : ∃ c t, text = c :: t := by
  cases h <;> exact ⟨_, _, rfl⟩

/- `basic_facts` .. `number_facts`: a byte of each class is ASCII and fails the tests `stepAt` makes before it comes to
   the branch of that class. -/

theorem basic_facts : ∀ c : UInt8, ∀ ty, basicOf c = some ty → c < 0x80 ∧ isIdStart c = false := by
  apply forall_uint8; decide +kernel

theorem idstart_facts : ∀ c : UInt8, isIdStart c = true → c < 0x80 := by
  intro c h
  simp only [isIdStart, Bool.or_eq_true, Bool.and_eq_true, decide_eq_true_eq, beq_iff_eq] at h
  rcases h with (h | h) | rfl
  · exact UInt8.lt_of_le_of_lt h.2 (by decide)
  · exact UInt8.lt_of_le_of_lt h.2 (by decide)
  · decide

theorem digit_facts : ∀ c : UInt8, isDigitB c = true → c < 0x80 := by
  intro c h
  simp only [isDigitB, Bool.and_eq_true, decide_eq_true_eq] at h
  exact UInt8.lt_of_le_of_lt h.2 (by decide)

theorem trail_facts (c : UInt8) (h : isIdTrail c = true) : c < 0x80 :=
  (Bool.or_eq_true _ _ ▸ h : isIdStart c = true ∨ isDigitB c = true).elim (idstart_facts c) (digit_facts c)

theorem number_facts : ∀ c : UInt8, (c = 0x2D ∨ isDigitB c = true) →
    (c < 0x80 ∧ isIdStart c = false ∧ basicOf c = none) ∧ (c.toNat = 0x2D || (0x30 ≤ c.toNat && c.toNat ≤ 0x39)) = true := by
  apply forall_uint8; decide +kernel

theorem scanDigits_run : ∀ (ds rest' : Bytes), (∀ x ∈ ds, isDigitB x = true) →
    (∀ d r, rest' = d :: r → isDigitB d = false) → scanDigits (ds ++ rest') = (ds, rest')
  | [], rest', _, hr => by
    cases rest' with
    | nil => rfl
    | cons d r =>
      have := hr d r rfl
      simp only [isDigitB] at this
      simp [scanDigits, this]
  | x :: ds, rest', hd, hr => by
    obtain ⟨hx, hds⟩ := List.forall_mem_cons.mp hd
    simp only [isDigitB] at hx
    simp [scanDigits, hx, scanDigits_run ds rest' hds hr]

theorem two_matched (r : Nat) (d : UInt8) (rest : Bytes) (start : Nat) (matched single : TokType) (hd : d < 0x80) :
    two r (d :: rest) start d.toNat matched single = .tok ⟨matched, [r.toUInt8, d], start⟩ rest := by
  simp [two, decode_lt80 d hd]

theorem two_single {r : Nat} {rest : Bytes} {start : Nat} {second : UInt8} {matched single : TokType}
    (hs : second < 0x80) (hr : ∀ d ds, rest = d :: ds → d ≠ second) :
    two r rest start second.toNat matched single = .tok ⟨single, [r.toUInt8], start⟩ rest := by
  cases rest with
  | nil => rfl
  | cons d ds =>
    have : ¬ (decodeRune (d :: ds)).1 = second.toNat := fun h =>
      hr d ds rfl (UInt8.toNat_inj.mp (decode_eq_ascii (UInt8.lt_iff_toNat_lt.mp hs) h))
    simp [two, this]

/-- `stepAt` after its two table lookups: what it does with a rune that neither starts an identifier nor is a
    single-character token. -/
def punct (white : List Nat) (total r : Nat) (rest : Bytes) (start : Nat) : Step :=
  if r = 0x2D || (0x30 ≤ r && r ≤ 0x39) then
    .tok ⟨.number, r.toUInt8 :: (scanDigits rest).1, start⟩ (scanDigits rest).2
  else if r = 0x5B then
    match rest with
    | 0x3F :: rest' => .tok ⟨.filter, [0x5B, 0x3F], start⟩ rest'
    | 0x5D :: rest' => .tok ⟨.flatten, [0x5B, 0x5D], start⟩ rest'
    | _ => .tok ⟨.lbracket, [0x5B], start⟩ rest
  else if r = 0x22 then
    match consumeUntil 0x22 rest.length rest with
    | none => .fail (.syntax total)
    | some (v, rest') =>
      match Json.unquoteString v with
      | none => .fail (.other "json: quoted identifier")
      | some decoded => .tok ⟨.qident, decoded, total - rest.length - 1⟩ rest'
  else if r = 0x27 then
    match rawBody rest.length rest with
    | none => .fail (.syntax total)
    | some (v, rest') => .tok ⟨.stringLiteral, v, total - rest.length⟩ rest'
  else if r = 0x60 then
    match consumeUntil 0x60 rest.length rest with
    | none => .fail (.syntax total)
    | some (v, rest') => .tok ⟨.jsonLiteral, unescapeBacktick v, total - rest.length⟩ rest'
  else if r = 0x7C then two r rest start 0x7C .or .pipe
  else if r = 0x3C then two r rest start 0x3D .lte .lt
  else if r = 0x3E then two r rest start 0x3D .gte .gt
  else if r = 0x21 then two r rest start 0x3D .ne .not
  else if r = 0x3D then two r rest start 0x3D .eq .unknown
  else if r = 0x26 then two r rest start 0x26 .and .expref
  else if white.contains r then .skip rest
  else .fail (.syntax (((total - rest.length : Nat) : Int) - 1))

section Steps
variable {tb : Tables} (hT : TablesAscii tb) {total : Nat}
include hT

theorem step_punct (c : UInt8) (rest : Bytes) (h : c < 0x80 ∧ isIdStart c = false ∧ basicOf c = none) :
    step tb total (c :: rest) = punct tb.white total c.toNat rest (total - (rest.length + 1)) := by
  rw [step_ascii c h.1]
  -- `simp only [stepAt, ..]` would first derive equations for `stepAt` by splitting the matches inside it
  unfold stepAt
  simp only [hT.start c h.1, h.2.1, hT.basic c h.1, h.2.2, Bool.false_eq_true, if_false]
  rfl

theorem step_white {c : UInt8} {rest : Bytes} (hw : isWhiteB c = true) : step tb total (c :: rest) = .skip rest := by
  simp only [isWhiteB, Bool.or_eq_true, beq_iff_eq] at hw
  -- on each of the four bytes `punct` evaluates down to its test of the white-space table
  rcases hw with ((rfl | rfl) | rfl) | rfl <;>
    exact (step_punct hT _ rest (by decide)).trans (if_pos (hT.white _ (by decide)))

theorem identTrail_stop {d : UInt8} {ds : Bytes} (h : isIdTrail d = false) :
    identTrail tb.trailBits (decodeRune (d :: ds)).1 = .ok false := by
  by_cases hd : d < 0x80
  · rw [decode_lt80 d hd, hT.trail d hd, h]
  · exact if_pos (decode_ge80 d ds hd)

theorem scanIdent_run : ∀ (v rest' : Bytes) (fuel : Nat), (∀ x ∈ v, isIdTrail x = true) →
    (∀ d ds, rest' = d :: ds → isIdTrail d = false) → v.length + rest'.length ≤ fuel →
    scanIdent tb fuel (v ++ rest') = .ok (v, rest')
  | [], rest', fuel, _, hr, hf => by
    cases rest' with
    | nil => cases fuel <;> rfl
    | cons d ds =>
      cases fuel with
      | zero => simp at hf
      | succ f =>
        unfold scanIdent
        simp only [List.nil_append, identTrail_stop hT (hr d ds rfl)]
  | x :: v, rest', fuel, hv, hr, hf => by
    obtain ⟨hx, hv'⟩ := List.forall_mem_cons.mp hv
    have hxa := trail_facts x hx
    cases fuel with
    | zero => simp at hf
    | succ f =>
      have ih := scanIdent_run v rest' f hv' hr (by simp at hf; omega)
      unfold scanIdent
      simp only [List.cons_append, decode_lt80 x hxa, hT.trail x hxa, hx, List.drop_one, List.tail_cons,
        ih, List.take_succ_cons, List.take_zero, List.nil_append]

theorem step_bracket (rest : Bytes) : step tb total (0x5B :: rest) =
    match rest with
    | 0x3F :: rest' => .tok ⟨.filter, [0x5B, 0x3F], total - (rest.length + 1)⟩ rest'
    | 0x5D :: rest' => .tok ⟨.flatten, [0x5B, 0x5D], total - (rest.length + 1)⟩ rest'
    | _ => .tok ⟨.lbracket, [0x5B], total - (rest.length + 1)⟩ rest :=
  step_punct hT 0x5B rest (by decide)

theorem step_dquote (rest : Bytes) : step tb total (0x22 :: rest) =
    match consumeUntil 0x22 rest.length rest with
    | none => .fail (.syntax total)
    | some (v, rest') =>
      match Json.unquoteString v with
      | none => .fail (.other "json: quoted identifier")
      | some decoded => .tok ⟨.qident, decoded, total - rest.length - 1⟩ rest' :=
  step_punct hT 0x22 rest (by decide)

theorem step_quote (rest : Bytes) : step tb total (0x27 :: rest) =
    match rawBody rest.length rest with
    | none => .fail (.syntax total)
    | some (v, rest') => .tok ⟨.stringLiteral, v, total - rest.length⟩ rest' :=
  step_punct hT 0x27 rest (by decide)

theorem step_backtick (rest : Bytes) : step tb total (0x60 :: rest) =
    match consumeUntil 0x60 rest.length rest with
    | none => .fail (.syntax total)
    | some (v, rest') => .tok ⟨.jsonLiteral, unescapeBacktick v, total - rest.length⟩ rest' :=
  step_punct hT 0x60 rest (by decide)

/-- the two-character operators: first byte, second byte, the token when the second byte follows, the token when not -/
def twoOps : List (UInt8 × UInt8 × TokType × TokType) :=
  [(0x7C, 0x7C, .or, .pipe), (0x3C, 0x3D, .lte, .lt), (0x3E, 0x3D, .gte, .gt), (0x21, 0x3D, .ne, .not),
   (0x3D, 0x3D, .eq, .unknown), (0x26, 0x26, .and, .expref)]

theorem step_two {c d : UInt8} {m s : TokType} (h : (c, d, m, s) ∈ twoOps) (rest : Bytes) :
    d < 0x80 ∧ step tb total (c :: rest) = two c.toNat rest (total - (rest.length + 1)) d.toNat m s := by
  simp only [twoOps, List.mem_cons, Prod.mk.injEq, List.not_mem_nil, or_false] at h
  rcases h with ⟨rfl, rfl, rfl, rfl⟩ | ⟨rfl, rfl, rfl, rfl⟩ | ⟨rfl, rfl, rfl, rfl⟩ | ⟨rfl, rfl, rfl, rfl⟩ |
    ⟨rfl, rfl, rfl, rfl⟩ | ⟨rfl, rfl, rfl, rfl⟩ <;>
  exact ⟨by decide, step_punct hT _ rest (by decide)⟩

theorem step_matched {c d : UInt8} {m s : TokType} (h : (c, d, m, s) ∈ twoOps) {rest : Bytes} :
    ∃ pos, step tb total (c :: d :: rest) = .tok ⟨m, [c, d], pos⟩ rest := by
  obtain ⟨hd, hs⟩ := step_two hT h (d :: rest)
  rw [hs, two_matched _ d rest _ m s hd, Nat.toUInt8_eq, UInt8.ofNat_toNat]
  exact ⟨_, rfl⟩

theorem step_single {c d : UInt8} {m s : TokType} (h : (c, d, m, s) ∈ twoOps) {rest : Bytes}
    (hr : ∀ e es, rest = e :: es → e ≠ d) : ∃ pos, step tb total (c :: rest) = .tok ⟨s, [c], pos⟩ rest := by
  obtain ⟨hd, hs⟩ := step_two hT h rest
  rw [hs, two_single hd hr, Nat.toUInt8_eq, UInt8.ofNat_toNat]
  exact ⟨_, rfl⟩

end Steps

theorem step_spell {tb : Tables} (hT : TablesAscii tb) {total : Nat} {ty : TokType} {v text : Bytes} (hs : Spell ty v text)
    (rest : Bytes) (hf : Follows ty rest.head?) : ∃ pos, step tb total (text ++ rest) = .tok ⟨ty, v, pos⟩ rest := by
  have hfol : ∀ d ds, rest = d :: ds → Follows ty (some d) := fun d ds e => by subst e; exact hf
  cases hs with
  | basic c ty hb =>
    obtain ⟨hc, e1⟩ := basic_facts c ty hb
    rw [List.singleton_append, step_ascii c hc]
    unfold stepAt
    simp only [hT.start c hc, e1, Bool.false_eq_true, if_false, hT.basic c hc, hb, encodeRune_ascii c hc]
    exact ⟨_, rfl⟩
  | ident c v hs hv =>
    have hc := idstart_facts c hs
    rw [List.cons_append, step_ascii c hc]
    unfold stepAt
    simp only [hT.start c hc, hs, if_true, scanIdent_run hT v rest (v ++ rest).length hv hfol (by simp),
      List.singleton_append]
    exact ⟨_, rfl⟩
  | number c ds hc0 hd =>
    obtain ⟨hp, e3⟩ := number_facts c hc0
    rw [List.cons_append, step_punct hT c _ hp]
    unfold punct
    simp only [e3, if_true, scanDigits_run ds rest hd hfol, Nat.toUInt8_eq, UInt8.ofNat_toNat]
    exact ⟨_, rfl⟩
  | lbracket =>
    rw [List.singleton_append, step_bracket hT]
    split
    · exact absurd rfl (hfol _ _ rfl).1
    · exact absurd rfl (hfol _ _ rfl).2
    · exact ⟨_, rfl⟩
  | filter | flatten => exact ⟨_, step_bracket hT _⟩
  | or => exact step_matched hT (s := .pipe) (by decide)
  | pipe => exact step_single hT (m := .or) (by decide) hfol
  | lte => exact step_matched hT (s := .lt) (by decide)
  | lt => exact step_single hT (m := .lte) (by decide) hfol
  | gte => exact step_matched hT (s := .gt) (by decide)
  | gt => exact step_single hT (m := .gte) (by decide) hfol
  | ne => exact step_matched hT (s := .not) (by decide)
  | not => exact step_single hT (m := .ne) (by decide) hfol
  | eq => exact step_matched hT (s := .unknown) (by decide)
  | and => exact step_matched hT (s := .expref) (by decide)
  | expref => exact step_single hT (m := .and) (by decide) hfol
  | raw v _ hok =>
    rw [List.cons_append, List.append_assoc, List.singleton_append, step_quote hT, rawBody_rawSpell_bytes v rest _ hok (by simp)]
    exact ⟨_, rfl⟩
  | lit _ hu =>
    rw [List.cons_append, List.append_assoc, List.singleton_append, step_backtick hT,
      show consumeUntil 0x60 _ _ = _ from consumeUntil_units 0x60 (by decide) (by decide) _ hu rest _ (by simp)]
    simp only [unescapeBacktick_btSpell]
    exact ⟨_, rfl⟩
  | quoted body v hu hq =>
    rw [List.cons_append, List.append_assoc, List.singleton_append, step_dquote hT,
      show consumeUntil 0x22 _ _ = _ from consumeUntil_units 0x22 (by decide) (by decide) _ hu rest _ (by simp)]
    simp only [hq]
    exact ⟨_, rfl⟩

theorem loop_white {tb : Tables} (hT : TablesAscii tb) (total : Nat) : ∀ (ws s : Bytes) (fuel : Nat),
    (∀ w ∈ ws, isWhiteB w = true) → loop tb total (fuel + ws.length) (ws ++ s) = loop tb total fuel s
  | [], s, fuel, _ => rfl
  | w :: ws, s, fuel, h => by
    obtain ⟨hw, hws⟩ := List.forall_mem_cons.mp h
    have ih := loop_white hT total ws s fuel hws
    simp only [List.cons_append, List.length_cons]
    rw [show fuel + (ws.length + 1) = (fuel + ws.length) + 1 from rfl]
    conv => lhs; unfold loop
    simp only [step_white hT hw, ih]

/-- `Rendered keys s`: `s` writes the tokens `keys` in order, each as one of its
    spellings, with any white space before, between and after them; two tokens
    touch only where the second cannot be read as a continuation of the first. -/
inductive Rendered : List (TokType × Bytes) → Bytes → Prop
  | nil (ws : Bytes) : (∀ w ∈ ws, isWhiteB w = true) → Rendered [] ws
  | cons (ws : Bytes) (ty : TokType) (v text rest : Bytes) (toks : List (TokType × Bytes)) :
      (∀ w ∈ ws, isWhiteB w = true) → Spell ty v text → Rendered toks rest → Follows ty rest.head? →
      Rendered ((ty, v) :: toks) (ws ++ (text ++ rest))

theorem Rendered.one {ty : TokType} {v text : Bytes} (hs : Spell ty v text) : Rendered [(ty, v)] text := by
  have hr := Rendered.cons [] ty v text [] [] (by simp) hs (Rendered.nil [] (by simp)) (by cases ty <;> trivial)
  simpa using hr

def keyOf (t : Token) : TokType × Bytes := (t.ty, t.value)

/-- **The lexer inverts rendering.** -/
theorem loop_rendered {tb : Tables} (hT : TablesAscii tb) (total : Nat) {keys : List (TokType × Bytes)} {s : Bytes}
    (h : Rendered keys s) : ∀ fuel, s.length < fuel →
    ∃ lexed, loop tb total fuel s = .ok (lexed ++ [⟨.eof, [], total⟩]) ∧ lexed.map keyOf = keys := by
  induction h with (intro fuel hfuel)
  | nil ws hw =>
    obtain ⟨f, rfl⟩ : ∃ f, fuel = (f + 1) + ws.length := ⟨fuel - ws.length - 1, by omega⟩
    have := loop_white hT total ws [] (f + 1) hw
    simp only [List.append_nil] at this
    rw [this]
    exact ⟨[], rfl, rfl⟩
  | cons ws ty v text rest toks hw hs hr hf ih =>
    obtain ⟨c, t, rfl⟩ := spell_text_cons hs
    simp only [List.length_append, List.length_cons] at hfuel
    obtain ⟨f, rfl⟩ : ∃ f, fuel = (f + 1) + ws.length := ⟨fuel - ws.length - 1, by omega⟩
    rw [loop_white hT total ws (c :: t ++ rest) (f + 1) hw]
    obtain ⟨pos, hstep⟩ := step_spell (total := total) hT hs rest hf
    obtain ⟨lexed, hl, hk⟩ := ih f (by omega)
    rw [List.cons_append] at hstep ⊢
    unfold loop
    simp only [hstep, hl]
    exact ⟨⟨ty, v, pos⟩ :: lexed, by simp, by simp [keyOf, hk]⟩

theorem tokenize_rendered {tb : Tables} (hT : TablesAscii tb) {keys : List (TokType × Bytes)} {s : Bytes}
    (h : Rendered keys s) :
    ∃ lexed, tokenize tb s = .ok (lexed ++ [⟨.eof, [], s.length⟩]) ∧ lexed.map keyOf = keys :=
  loop_rendered hT s.length h (s.length + 1) (Nat.lt_succ_self _)

end Jmes.Lexer
