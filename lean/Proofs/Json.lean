/-
  Proofs.Json — JSON-ness (`Val.isJSON`: object keys strictly ascending, all
  numbers finite) is preserved by the value operations the interpreter and the
  built-in functions use.
-/
import Proofs.BytesLt
import Proofs.Value
namespace Jmes.Val
variable {N : Type}

def headGt (k' : Bytes) : List (Bytes × Val N) → Prop
  | [] => True
  | (k, _) :: _ => bytesLt k' k = true

theorem keysSorted_cons {k : Bytes} {v : Val N} {rest : List (Bytes × Val N)} :
    keysSorted ((k, v) :: rest) = true ↔ headGt k rest ∧ keysSorted rest = true := by
  -- both sides compute: `keysSorted` of two or more members is `bytesLt k k2 && keysSorted` of the tail
  cases rest with
  | nil => exact iff_of_true rfl ⟨trivial, rfl⟩
  | cons kv r => exact Bool.and_eq_true_iff

theorem insert_sorted {k : Bytes} {v : Val N} : ∀ {l : List (Bytes × Val N)}, keysSorted l = true → keysSorted (insert k v l) = true
  | [], _ => rfl
  | (k', v') :: rest, h => by
    rw [keysSorted_cons] at h
    simp only [insert]
    split
    · rename_i hk; subst hk
      exact keysSorted_cons.mpr h
    · rename_i hne
      split
      · rename_i hlt
        exact keysSorted_cons.mpr ⟨hlt, keysSorted_cons.mpr h⟩
      · rename_i hnlt
        have hgt : bytesLt k' k = true := by
          rcases bytesLt_total k k' with h' | h' | h'
          · exact absurd h' hnlt
          · exact absurd h'.symm hne
          · exact h'
        -- the new head of the tail is `k` or the old head: above `k'` either way
        have hhead : headGt k' (insert k v rest) := by
          cases rest with
          | nil => exact hgt
          | cons kv r =>
            simp only [insert]
            split
            · exact hgt
            · split
              · exact hgt
              · exact h.1
        exact keysSorted_cons.mpr ⟨hhead, insert_sorted h.2⟩

/-- `wfList`, `finiteList`, `wfKVs`, `finiteKVs` are each `List.all` of a test `p`, written out as a recursion -/
theorem all_iff {α} {f : List α → Bool} {p : α → Bool} (nil : f [] = true) (cons : ∀ x xs, f (x :: xs) = (p x && f xs)) :
    ∀ l, f l = true ↔ ∀ x ∈ l, p x = true
  | [] => iff_of_true nil fun _ h => nomatch h
  | x :: xs => by rw [cons, Bool.and_eq_true, all_iff nil cons xs, List.forall_mem_cons]

theorem wfList_iff (l : List (Val N)) : wfList l = true ↔ ∀ x ∈ l, wf x = true :=
  all_iff rfl (fun _ _ => rfl) l

theorem finiteList_iff [NumOps N] (l : List (Val N)) : finiteList l = true ↔ ∀ x ∈ l, finite x = true :=
  all_iff rfl (fun _ _ => rfl) l

theorem wfKVs_iff (l : List (Bytes × Val N)) : wfKVs l = true ↔ ∀ kv ∈ l, kv.2.wf = true :=
  all_iff (p := fun kv => kv.2.wf) rfl (fun _ _ => rfl) l

theorem finiteKVs_iff [NumOps N] (l : List (Bytes × Val N)) : finiteKVs l = true ↔ ∀ kv ∈ l, kv.2.finite = true :=
  all_iff (p := fun kv => kv.2.finite) rfl (fun _ _ => rfl) l

variable [NumOps N]

theorem isJSON_arr {xs : List (Val N)} : (Val.arr xs).isJSON = true ↔ ∀ x ∈ xs, x.isJSON = true := by
  rw [show (Val.arr xs).isJSON = (wfList xs && finiteList xs) from rfl]
  simp only [isJSON, Bool.and_eq_true, wfList_iff, finiteList_iff, imp_and, forall_and]

theorem isJSON_obj {kvs : List (Bytes × Val N)} :
    (Val.obj kvs).isJSON = true ↔ keysSorted kvs = true ∧ ∀ kv ∈ kvs, kv.2.isJSON = true := by
  rw [show (Val.obj kvs).isJSON = (keysSorted kvs && wfKVs kvs && finiteKVs kvs) from rfl]
  simp only [isJSON, Bool.and_eq_true, wfKVs_iff, finiteKVs_iff, imp_and, forall_and, and_assoc]

theorem isJSON_insert (k : Bytes) {v : Val N} (hv : v.isJSON = true) {kvs : List (Bytes × Val N)}
    (h : (Val.obj kvs).isJSON = true) : (Val.obj (insert k v kvs)).isJSON = true := by
  rw [isJSON_obj] at h ⊢
  exact ⟨insert_sorted h.1, fun p hp => (mem_insert hp).elim (fun e => e ▸ hv) (h.2 p)⟩

theorem isJSON_foldl_insert {ps : List (Bytes × Val N)} (hps : ∀ kv ∈ ps, kv.2.isJSON = true)
    {acc : List (Bytes × Val N)} (hacc : (Val.obj acc).isJSON = true) :
    (Val.obj (ps.foldl (fun m kv => insert kv.1 kv.2 m) acc)).isJSON = true := by
  induction ps generalizing acc with
  | nil => exact hacc
  | cons kv rest ih =>
    simp only [List.foldl_cons]
    exact ih (fun x hx => hps x (by simp [hx])) (isJSON_insert kv.1 (hps kv (by simp)) hacc)

theorem isJSON_lookup (k : Bytes) (kvs : List (Bytes × Val N)) (h : (Val.obj kvs).isJSON = true) :
    ((lookup k kvs).getD .null).isJSON = true := by
  cases hl : lookup k kvs with
  | none => rfl
  | some v => exact (isJSON_obj.mp h).2 (k, v) (mem_of_lookup hl)

theorem isJSON_null : (Val.null : Val N).isJSON = true := rfl
theorem isJSON_bool (b : Bool) : (Val.bool b : Val N).isJSON = true := rfl
theorem isJSON_str (s : Bytes) : (Val.str s : Val N).isJSON = true := rfl
theorem isJSON_num (n : N) : (Val.num n).isJSON = true ↔ NumOps.isFinite n = true :=
  Iff.rfl

end Jmes.Val
