/-
  Proofs.BytesLt — `Val.bytesLt` (Go's `<` on strings) is the lexicographic
  order `<` of `List UInt8`; that it is a strict total order is then core's
  `List.lt_irrefl`, `List.lt_trans`, `List.lt_asymm` and `List.le_iff_lt_or_eq`.
-/
import Jmes.Value
namespace Jmes.Val

theorem bytesLt_iff_lt : ∀ a b : Bytes, bytesLt a b = true ↔ a < b
  | [], [] | [], _ :: _ | _ :: _, [] => by simp [bytesLt]
  | x :: xs, y :: ys => by
    rw [List.cons_lt_cons_iff, ← bytesLt_iff_lt xs ys]
    simp only [bytesLt]
    by_cases hxy : x < y
    · simp [hxy]
    · by_cases hyx : y < x
      · have : x ≠ y := (UInt8.ne_of_lt hyx).symm
        simp [hxy, hyx, this]
      · have : x = y := UInt8.le_antisymm (UInt8.not_lt.mp hyx) (UInt8.not_lt.mp hxy)
        simp [this]

theorem bytesLt_irrefl (a : Bytes) : bytesLt a a = false := by
  simpa [← bytesLt_iff_lt] using List.lt_irrefl a

theorem bytesLt_trans (a b c : Bytes) (h1 : bytesLt a b = true) (h2 : bytesLt b c = true) : bytesLt a c = true := by
  rw [bytesLt_iff_lt] at *; exact List.lt_trans h1 h2

theorem bytesLt_asymm (a b : Bytes) (h : bytesLt a b = true) : bytesLt b a = false := by
  rw [← Bool.not_eq_true, bytesLt_iff_lt] at *; exact List.lt_asymm h

theorem bytesLt_total (a b : Bytes) : bytesLt a b = true ∨ a = b ∨ bytesLt b a = true := by
  simp only [bytesLt_iff_lt]
  by_cases h : a < b
  · exact .inl h
  · rcases List.le_iff_lt_or_eq.mp (List.not_lt.mp h) with h' | h'
    · exact .inr (.inr h')
    · exact .inr (.inl h'.symm)

theorem bytesLt_append_left (p x y : Bytes) : bytesLt (p ++ x) (p ++ y) = bytesLt x y := by
  induction p with
  | nil => rfl
  | cons a as ih => simp only [List.cons_append, bytesLt, UInt8.lt_irrefl, if_false, ih]

end Jmes.Val
