/-
  Proofs.EvalEq — `eval` node by node in monadic form, and its loops as `Res.mapM'`.  The model spells every
  `if err != nil { return nil, err }` as a `match`; these equations say the same with `>>=`, so that a property of
  outcomes (no panic, a JSON value, no value at all) is carried through a node by one bind rule.

  Each proof opens the one application of `eval` on the left by computing it (`conv => lhs; whnf` stops at the first
  `match` on an outcome that is not known yet).  Rewriting with `eval.eq_def`, or `simp only [eval]`, would have Lean
  prove the unfolding equations of the mutual definition first, which costs more than everything else in this file.
-/
import Jmes.Interp
import Proofs.Res
namespace Jmes.Interp
variable {N : Type}

theorem mem_dropNulls {y : Val N} : ∀ {ys : List (Val N)}, y ∈ dropNulls ys → y ∈ ys
  | x :: ys, h => by
    cases x with
    | null => exact List.mem_cons_of_mem _ (mem_dropNulls h)
    | _ => exact List.mem_cons.mpr ((List.mem_cons.mp h).imp_right mem_dropNulls)

theorem projectLoop_eq (f : Val N → Res (Val N)) (xs : List (Val N)) :
    projectLoop f xs = Res.mapM' f xs >>= fun ys => .ok (dropNulls ys) := by
  induction xs with
  | nil => rfl
  | cons x xs ih =>
    conv => lhs; whnf
    rw [ih, Res.mapM'_cons]
    cases f x with
    | ok y => cases Res.mapM' f xs <;> cases y <;> rfl
    | _ => rfl

theorem projectLoop_ne_ok {f : Val N → Res (Val N)} {xs : List (Val N)} {x : Val N} (hx : x ∈ xs) (h : ∀ y, f x ≠ .ok y) :
    ∀ ys, projectLoop f xs ≠ .ok ys := by
  rw [projectLoop_eq]
  exact Res.bind_ne_ok_left (Res.mapM'_ne_ok hx h)

theorem projectLoop_ok (f : Val N → Res (Val N)) (g : Val N → Val N) (xs : List (Val N))
    (h : ∀ x ∈ xs, f x = .ok (g x)) : projectLoop f xs = .ok (dropNulls (xs.map g)) := by
  rw [projectLoop_eq, Res.mapM'_map h]
  rfl

/-- An element left out and a null result give the same list. -/
theorem filterLoop_eq_projectLoop (c r : Val N → Res (Val N)) (xs : List (Val N)) :
    filterLoop c r xs = projectLoop (fun x => c x >>= fun cv => if cv.isFalse then .ok .null else r x) xs := by
  induction xs with
  | nil => rfl
  | cons x xs ih =>
    conv => congr <;> whnf
    simp only [ih]
    cases c x with
    | ok cv =>
      dsimp only [Res.bind_ok]
      cases cv.isFalse
      · rfl
      · cases projectLoop _ xs <;> rfl
    | _ => rfl

theorem filterLoop_ok (cond rhs : Val N → Res (Val N)) (cf rf : Val N → Val N) (xs : List (Val N))
    (hc : ∀ x ∈ xs, cond x = .ok (cf x)) (hr : ∀ x ∈ xs, rhs x = .ok (rf x)) :
    filterLoop cond rhs xs = .ok (dropNulls ((xs.filter (fun x => !(cf x).isFalse)).map rf)) := by
  induction xs with
  | nil => rfl
  | cons x xs ih =>
    conv => lhs; whnf
    simp only [hc x (List.mem_cons_self ..), hr x (List.mem_cons_self ..), List.filter_cons,
      ih (fun y hy => hc y (List.mem_cons_of_mem _ hy)) (fun y hy => hr y (List.mem_cons_of_mem _ hy))]
    cases (cf x).isFalse
    · simp only [Bool.not_false, if_true, List.map_cons]
      cases rf x <;> rfl
    · rfl

/-- What a projection does with the value of its left side. -/
def projectOver (elems : Val N → Option (List (Val N))) (loop : List (Val N) → Res (List (Val N))) (v : Val N) :
    Res (Val N) :=
  match elems v with
  | some xs => loop xs >>= fun ys => .ok (.arr ys)
  | none => .ok .null

def arrElems : Val N → Option (List (Val N))
  | .arr xs => some xs
  | _ => none

def objElems : Val N → Option (List (Val N))
  | .obj kvs => some (kvs.map (·.2))
  | _ => none

variable [NumOps N] (ft : List FnEntry)

theorem eval_empty (d : Val N) : eval ft .empty d = .err (.other "Unknown AST node") := rfl
theorem eval_current (d : Val N) : eval ft .current d = .ok d := rfl
theorem eval_identity (d : Val N) : eval ft .identity d = .ok d := rfl
theorem eval_literal (v d : Val N) : eval ft (.literal v) d = .ok v := rfl

theorem eval_field (name : Bytes) (d : Val N) :
    eval ft (.field name) d = .ok (match d with | .obj kvs => (Val.lookup name kvs).getD .null | _ => .null) := by
  cases d <;> rfl

theorem eval_index (i : Int) (d : Val N) :
    eval ft (.index i) d = .ok (match d with | .arr xs => indexArr xs i | _ => .null) := by
  cases d <;> rfl

theorem eval_slice (a b c : Option Int) (d : Val N) :
    eval ft (.slice a b c) d = projectOver arrElems (fun xs => Slice.slice xs a b c) d := by
  cases d with
  | arr xs =>
    conv => lhs; whnf
    simp only [projectOver, arrElems]
    cases Slice.slice xs a b c <;> rfl
  | _ => rfl

theorem eval_cmp (op : Cmp) (l r : Node N) (d : Val N) :
    eval ft (.cmp op l r) d = eval ft l d >>= fun lv => eval ft r d >>= fun rv => .ok (compareVals op lv rv) := by
  conv => lhs; whnf
  cases eval ft l d with
  | ok lv => cases eval ft r d <;> rfl
  | _ => rfl

theorem eval_call (name : Bytes) (args : List (Bool × Node N)) (d : Val N) :
    eval ft (.call name args) d = evalArgs ft args d >>= Fn.callFunction ft name := by
  conv => lhs; whnf
  cases evalArgs ft args d <;> rfl

theorem eval_pipe (l r : Node N) (d : Val N) : eval ft (.pipe l r) d = eval ft l d >>= eval ft r := by
  conv => lhs; whnf
  cases eval ft l d <;> rfl
theorem eval_sub (l r : Node N) (d : Val N) : eval ft (.sub l r) d = eval ft l d >>= eval ft r := by
  conv => lhs; whnf
  cases eval ft l d <;> rfl
theorem eval_indexExpr (l r : Node N) (d : Val N) : eval ft (.indexExpr l r) d = eval ft l d >>= eval ft r := by
  conv => lhs; whnf
  cases eval ft l d <;> rfl

theorem eval_or (l r : Node N) (d : Val N) :
    eval ft (.or l r) d = eval ft l d >>= fun m => if m.isFalse then eval ft r d else .ok m := by
  conv => lhs; whnf
  cases eval ft l d <;> rfl
theorem eval_and (l r : Node N) (d : Val N) :
    eval ft (.and l r) d = eval ft l d >>= fun m => if m.isFalse then .ok m else eval ft r d := by
  conv => lhs; whnf
  cases eval ft l d <;> rfl
theorem eval_not (e : Node N) (d : Val N) : eval ft (.not e) d = eval ft e d >>= fun m => .ok (.bool m.isFalse) := by
  conv => lhs; whnf
  cases eval ft e d <;> rfl

theorem eval_flatten (e : Node N) (d : Val N) :
    eval ft (.flatten e) d = eval ft e d >>= fun v => .ok (match v with | .arr xs => .arr (flattenOnce xs) | _ => .null) := by
  conv => lhs; whnf
  cases eval ft e d with
  | ok v => cases v <;> rfl
  | _ => rfl

theorem eval_proj (l r : Node N) (d : Val N) :
    eval ft (.proj l r) d = eval ft l d >>= projectOver arrElems (projectLoop (eval ft r)) := by
  conv => lhs; whnf
  cases eval ft l d with
  | ok v => cases v with
    | arr xs => simp only [Res.bind_ok, projectOver, arrElems]; cases projectLoop (eval ft r) xs <;> rfl
    | _ => rfl
  | _ => rfl

theorem eval_valueProj (l r : Node N) (d : Val N) :
    eval ft (.valueProj l r) d = eval ft l d >>= projectOver objElems (projectLoop (eval ft r)) := by
  conv => lhs; whnf
  cases eval ft l d with
  | ok v => cases v with
    | obj kvs => simp only [Res.bind_ok, projectOver, objElems]; cases projectLoop (eval ft r) (kvs.map (·.2)) <;> rfl
    | _ => rfl
  | _ => rfl

theorem eval_filterProj (l r c : Node N) (d : Val N) :
    eval ft (.filterProj l r c) d = eval ft l d >>= projectOver arrElems (filterLoop (eval ft c) (eval ft r)) := by
  conv => lhs; whnf
  cases eval ft l d with
  | ok v => cases v with
    | arr xs => simp only [Res.bind_ok, projectOver, arrElems]; cases filterLoop (eval ft c) (eval ft r) xs <;> rfl
    | _ => rfl
  | _ => rfl

theorem eval_msList (xs : List (Node N)) (d : Val N) :
    eval ft (.msList xs) d = match d with
      | .null => .ok .null
      | _ => evalList ft xs d >>= fun vs => .ok (.arr vs) := by
  cases d with
  | null => rfl
  | _ =>
    conv => lhs; whnf
    cases evalList ft xs _ <;> rfl

theorem eval_msHash (kvs : List (Bytes × Node N)) (d : Val N) :
    eval ft (.msHash kvs) d = match d with
      | .null => .ok .null
      | _ => evalKVs ft kvs d >>= fun ps => .ok (.obj (ps.foldl (fun m kv => Val.insert kv.1 kv.2 m) [])) := by
  cases d with
  | null => rfl
  | _ =>
    conv => lhs; whnf
    cases evalKVs ft kvs _ <;> rfl

theorem evalList_eq (xs : List (Node N)) (d : Val N) : evalList ft xs d = Res.mapM' (fun x => eval ft x d) xs := by
  induction xs with
  | nil => rfl
  | cons x xs ih =>
    conv => lhs; whnf
    simp only [Res.mapM'_cons, ih]
    cases eval ft x d with
    | ok v => cases Res.mapM' (fun x => eval ft x d) xs <;> rfl
    | _ => rfl

theorem evalList_cons (x : Node N) (xs : List (Node N)) (d : Val N) :
    evalList ft (x :: xs) d = eval ft x d >>= fun v => evalList ft xs d >>= fun vs => .ok (v :: vs) := by
  rw [evalList_eq, evalList_eq, Res.mapM'_cons]

theorem evalKVs_eq (kvs : List (Bytes × Node N)) (d : Val N) :
    evalKVs ft kvs d = Res.mapM' (fun kv => eval ft kv.2 d >>= fun v => .ok (kv.1, v)) kvs := by
  induction kvs with
  | nil => rfl
  | cons kv kvs ih =>
    obtain ⟨k, x⟩ := kv
    conv => lhs; whnf
    simp only [Res.mapM'_cons, ih]
    cases eval ft x d with
    | ok v => simp only [Res.bind_ok]; cases Res.mapM' _ kvs <;> rfl
    | _ => rfl

theorem evalKVs_cons (k : Bytes) (x : Node N) (kvs : List (Bytes × Node N)) (d : Val N) :
    evalKVs ft ((k, x) :: kvs) d = eval ft x d >>= fun v => evalKVs ft kvs d >>= fun ps => .ok ((k, v) :: ps) := by
  rw [evalKVs_eq, evalKVs_eq, Res.mapM'_cons]
  cases eval ft x d <;> rfl

theorem evalArgs_eq (args : List (Bool × Node N)) (d : Val N) :
    evalArgs ft args d =
      Res.mapM' (fun a => if a.1 then .ok (.ref (eval ft a.2)) else eval ft a.2 d >>= fun v => .ok (.val v)) args := by
  induction args with
  | nil => rfl
  | cons a args ih =>
    obtain ⟨b, x⟩ := a
    cases b
    · conv => lhs; whnf
      simp only [Res.mapM'_cons, ih, Bool.false_eq_true, if_false]
      cases eval ft x d with
      | ok v => simp only [Res.bind_ok]; cases Res.mapM' _ args <;> rfl
      | _ => rfl
    · conv => lhs; whnf
      simp only [Res.mapM'_cons, ih, if_true]
      cases Res.mapM' _ args <;> rfl

theorem evalArgs_cons_ref (x : Node N) (args : List (Bool × Node N)) (d : Val N) :
    evalArgs ft ((true, x) :: args) d = evalArgs ft args d >>= fun as => .ok (.ref (eval ft x) :: as) := by
  rw [evalArgs_eq, evalArgs_eq, Res.mapM'_cons]
  rfl

theorem evalArgs_cons_val (x : Node N) (args : List (Bool × Node N)) (d : Val N) :
    evalArgs ft ((false, x) :: args) d =
      eval ft x d >>= fun v => evalArgs ft args d >>= fun as => .ok (.val v :: as) := by
  rw [evalArgs_eq, evalArgs_eq, Res.mapM'_cons]
  cases eval ft x d <;> rfl

end Jmes.Interp
