/-
  Proofs.RawString — the raw-string scanner inverts the spelling `rawSpell`
  (' written as \') on every byte string that does not end with a backslash,
  well-formed UTF-8 or not; the spelling of one that does is not read back: its
  last backslash takes the closing quote for an escaped one.  (Only this
  spelling is spoken of: that lexer.go reads no text at all as a value ending
  with a backslash, where the ABNF's pair `\\` would spell an even run of them,
  is not stated here.)
  Both follow from one step lemma (`rawBody_unit`): one iteration of the loop
  reads the spelling of the first unit of the string — a quote, an ASCII byte,
  an ill-formed byte or a multi-byte rune — whatever ASCII byte follows the
  spelling.
-/
import Proofs.LexerRoundTrip
namespace Jmes.Lexer
open Jmes.Utf8

theorem rawBody_nil (fuel : Nat) : rawBody fuel [] = none := by
  cases fuel <;> rfl

theorem rawBody_other (fuel : Nat) (c : UInt8) (cs : Bytes) (h27 : ¬ (decodeRune (c :: cs)).1 = 0x27)
    (h5c : ¬ (decodeRune (c :: cs)).1 = 0x5C) (hne : (c :: cs).drop (decodeRune (c :: cs)).2 ≠ []) :
    rawBody (fuel + 1) (c :: cs) = (rawBody fuel ((c :: cs).drop (decodeRune (c :: cs)).2)).map
      (fun p => ((c :: cs).take (decodeRune (c :: cs)).2 ++ p.1, p.2)) := by
  simp only [rawBody, h27, if_false]
  cases hs : (c :: cs).drop (decodeRune (c :: cs)).2 with
  | nil => exact absurd hs hne
  | cons y ys =>
    simp only [h5c, decide_false, Bool.false_and, Bool.false_eq_true, if_false]

theorem next_ne_quote (cs : Bytes) {a : UInt8} (Z : Bytes) (hcs : cs = [] → a ≠ 0x27) {d : UInt8} {ds : Bytes}
    (h : rawSpell cs ++ a :: Z = d :: ds) : ¬ (decodeRune (d :: ds)).1 = 0x27 := by
  have hd : d ≠ 0x27 := by
    cases cs with
    | nil => rw [← (List.cons.inj h).1]; exact hcs rfl
    | cons e es => rw [rawSpell_eq] at h; exact spell_head_ne (by decide) e es _ h
  exact fun h' => hd (UInt8.toNat_inj.mp (decode_eq_ascii (by decide) h'))

/-- `hend`: only a backslash at the very end of the string must not be followed by a quote. -/
theorem rawBody_unit (f : Nat) (c : UInt8) (cs : Bytes) {a : UInt8} (ha : a < 0x80) (Z : Bytes)
    (hend : c = 0x5C → cs = [] → a ≠ 0x27) :
    ∃ u t, c :: cs = u ++ t ∧ 1 ≤ u.length ∧
      rawBody (f + 1) (rawSpell (c :: cs) ++ a :: Z) =
        (rawBody f (rawSpell t ++ a :: Z)).map (fun p => (u ++ p.1, p.2)) := by
  by_cases hq : c = 0x27
  · subst hq
    refine ⟨[0x27], cs, rfl, Nat.le_refl 1, ?_⟩
    simp only [rawSpell, if_true, List.cons_append]
    rw [rawBody_step f 0x5C _ (by decide)]
    simp only [show ¬ ((0x5C : UInt8) = 0x27) by decide, if_false, decode_lt80 0x27 (by decide),
      show (0x27 : UInt8).toNat = 0x27 from rfl, and_self, if_true]
    rfl
  have hsp : rawSpell (c :: cs) = c :: rawSpell cs := if_neg hq
  rw [hsp, List.cons_append]
  by_cases hc : c < 0x80
  · -- an ASCII byte: it is kept, and is not taken for the backslash of `\'`
    refine ⟨[c], cs, rfl, Nat.le_refl 1, ?_⟩
    rw [rawBody_step f c _ hc, if_neg hq]
    cases hnext : rawSpell cs ++ a :: Z with
    | nil => simp at hnext
    | cons d ds =>
      by_cases hb : c = 0x5C
      · simp only [hb, next_ne_quote cs Z (hend hb) hnext, and_false, if_false]; rfl
      · simp only [hb, false_and, if_false]; rfl
  · -- an ill-formed byte or a multi-byte rune: its bytes, none of them ASCII, are bytes of the string
    have hge := decode_ge80 c (rawSpell cs ++ a :: Z) hc
    have hhi := decode_take_hi c (rawSpell cs ++ a :: Z) hc
    have hw := (decodeRune_width c (rawSpell cs ++ a :: Z)).1
    have hstep := rawBody_other f c (rawSpell cs ++ a :: Z) (by omega) (by omega)
    generalize (decodeRune (c :: (rawSpell cs ++ a :: Z))).2 = w at hhi hw hstep
    obtain ⟨n, rfl⟩ := Nat.exists_eq_add_one.mpr hw
    rw [List.take_succ_cons] at hhi hstep
    rw [List.drop_succ_cons] at hstep
    rw [rawSpell_eq] at hhi hstep ⊢
    obtain ⟨ht, hd⟩ := spell_split_nonascii 0x27 ha Z n cs (List.forall_mem_cons.mp hhi).2
    rw [ht, hd] at hstep
    exact ⟨c :: cs.take n, cs.drop n, by rw [List.cons_append, List.take_append_drop], by simp,
      hstep (by simp)⟩

/-- **Raw strings, for every byte string that does not end with a backslash** (a backslash directly
    before a quote included, well-formed UTF-8 or not): scanning `rawSpell s ++ "'" ++ rest` yields
    exactly `s` and leaves `rest`. -/
theorem rawBody_rawSpell_bytes : ∀ (s rest : Bytes) (fuel : Nat), RawEndOK s →
    (rawSpell s).length < fuel → rawBody fuel (rawSpell s ++ 0x27 :: rest) = some (s, rest)
  | _, _, 0, _, hf => absurd hf (Nat.not_lt_zero _)
  | [], rest, f + 1, _, _ => (rawBody_step f 0x27 rest (by decide)).trans rfl
  | c :: cs, rest, f + 1, hok, hf => by
    obtain ⟨u, t, e, hu, hstep⟩ := rawBody_unit f c cs (by decide : (0x27 : UInt8) < 0x80) rest
      (fun hb hcs => absurd hb (by rw [hcs] at hok; exact hok))
    have hdec : t.length < (c :: cs).length := by rw [e, List.length_append]; omega
    have hsl := rawSpell_len u
    rw [e, rawSpell_eq, spell_append, ← rawSpell_eq, List.length_append] at hf
    rw [e] at hok
    rw [hstep, rawBody_rawSpell_bytes t rest f (RawEndOK_of_append u t hok) (by omega), e]
    rfl
termination_by s => s.length
decreasing_by assumption

/-- C14 (raw strings): for every ASCII string `s` that does not end with a backslash, scanning
    `rawSpell s ++ "'" ++ rest` yields exactly `s` — backslashes included — and leaves `rest`.
    The ASCII hypothesis is not needed (`rawBody_rawSpell_bytes`). -/
theorem rawBody_rawSpell : ∀ (s : Bytes) (rest : Bytes) (fuel : Nat), Ascii s → RawEndOK s →
    (rawSpell s).length < fuel → rawBody fuel (rawSpell s ++ 0x27 :: rest) = some (s, rest) :=
  fun s rest fuel _ hok hf => rawBody_rawSpell_bytes s rest fuel hok hf

/-- With the fuel `tokenize` gives the scanner (the length of what follows the opening quote). -/
theorem rawBody_rawSpell' (s rest : Bytes) (ha : Ascii s) (hok : RawEndOK s) :
    rawBody (rawSpell s ++ 0x27 :: rest).length (rawSpell s ++ 0x27 :: rest) = some (s, rest) :=
  rawBody_rawSpell s rest _ ha hok (by simp)

/-- **The spelling of a string that ends with a backslash is not read back**: in
    `'` + spelling of `s` + `\'` the last backslash escapes the quote meant to
    close the literal, and the scanner reaches the end of the input — for every
    byte string `s` (well-formed UTF-8 or not) and whatever the fuel. -/
theorem rawBody_trailing_backslash : ∀ (s : Bytes) (fuel : Nat), rawBody fuel (rawSpell s ++ [0x5C, 0x27]) = none
  | _, 0 => rfl
  | [], f + 1 => by
    rw [show rawSpell [] ++ [0x5C, 0x27] = 0x5C :: [0x27] from rfl, rawBody_step f 0x5C _ (by decide)]
    simp [decode_lt80, rawBody_nil]
  | c :: cs, f + 1 => by
    obtain ⟨u, t, e, hu, hstep⟩ := rawBody_unit f c cs (by decide : (0x5C : UInt8) < 0x80) [0x27] (fun _ _ => by decide)
    have hdec : t.length < (c :: cs).length := by rw [e, List.length_append]; omega
    rw [hstep, rawBody_trailing_backslash t f]
    rfl
termination_by s => s.length
decreasing_by assumption

end Jmes.Lexer
