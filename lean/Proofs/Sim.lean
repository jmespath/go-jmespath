/-
  Proofs.Sim — what the parser can see of its state, as closure properties of a relation between states
  (`Sim`), and the one induction over `R` that carries a derivation from a state to any related state
  (`R_sim`).  Two relations are instances: `PRel` (same token types, same values where the parser reads
  them: `R_transfer`, below) and `CRel` (the same phrase in other surroundings: `R_moves`, Proofs/Context.lean).
-/
import Proofs.ParserPos
import Proofs.GrammarComplete
namespace Jmes.Parser
variable {N : Type} [NumOps N]

/-- the tokens that may follow the phrase in its new surroundings: end of input, a pipe, or a closing
    token or separator.  All have power ≤ 1, and none is a type the parser tests for where a phrase may
    end (`(`, a number, `:`, `*`, `&`, `[]`), except `]` after a leading `*`: see `nudStar` in `R_sim`. -/
def followerOK : TokType → Bool
  | .eof | .pipe | .comma | .rbrace | .rparen | .rbracket => true
  | _ => false

theorem follower_ne {ty X : TokType} (h : followerOK ty = true) (hX : followerOK X = false) : ty ≠ X :=
  fun e => by rw [e, hX] at h; cases h

/-- how many tokens of the phrase a call needs behind it (only `led '('` looks back: two tokens) -/
def need : Call N → Nat
  | .led _ _ _ => 2
  | .loop _ _ _ | .nud _ _ => 1
  | _ => 0

omit [NumOps N] in
theorem need_le_two (c : Call N) : need c ≤ 2 := by cases c <;> simp [need]

/-- the levels at which the parser reads a right operand that nothing closes -/
structure OperandLevels (tbl : ParserTable) (lo : Nat) : Prop where
  nudNot : lo ≤ tbl.nudNot
  ledDotSub : lo ≤ tbl.ledDotSub
  ledPipe : lo ≤ tbl.ledPipe
  ledOr : lo ≤ tbl.ledOr
  ledAnd : lo ≤ tbl.ledAnd
  ledCmp {ty op} : Cmp.ofTok ty = some op → lo ≤ (tbl.ledCmp.lookup ty).getD 0
  nudStar : lo ≤ tbl.nudStar
  nudFlatten : lo ≤ tbl.nudFlatten
  nudBracketStar : lo ≤ tbl.nudBracketStar
  ledDotStar : lo ≤ tbl.ledDotStar
  ledFlatten : lo ≤ tbl.ledFlatten
  ledBracketStar : lo ≤ tbl.ledBracketStar
  sliceProj : lo ≤ tbl.sliceProj
  filterRhs : lo ≤ tbl.filterRhs

/-- `Rel n p p'`: `n` tokens behind the cursor are related. -/
structure Sim (N : Type) [NumOps N] (tbl : ParserTable) (Rel : Nat → PState → PState → Prop) (Halt : Nat → PState → Prop)
    (lo : Nat) : Prop where
  mono {n m p p'} : Rel n p p' → m ≤ n → Rel m p p'
  adv {n p p' t r} : Rel n p p' → p.after = t :: r → t.ty ≠ .eof →
    ∃ t' r', p'.after = t' :: r' ∧ TokRel t t' ∧ Rel (n + 1) p.advance p'.advance
  /-- The second alternative is the one place where the two states may show tokens of different types: `p` is at
      an end-of-input token and `p'` at a follower, in front of which the projections end and every loop halts
      that `Halt` says may have to. -/
  peek {n p p' t r} : Rel n p p' → p.after = t :: r →
    ∃ t' r', p'.after = t' :: r' ∧ (TokRel t t' ∨ (t.ty = .eof ∧ followerOK t'.ty = true ∧
      tbl.power t'.ty < tbl.projStop ∧ ∀ k, Halt k p → ¬ k < tbl.power t'.ty))
  before2 {n p p' a b more} : Rel n p p' → 2 ≤ n → p.before = a :: b :: more →
    ∃ a' b' more', p'.before = a' :: b' :: more' ∧ TokRel b b'
  /-- How the sub-calls of a derivation get their `Halt`: they run at a level of the table (`levels`) … -/
  halt_level {k p} : lo ≤ k → Halt k p
  /-- … or something other than the end of input closes them. -/
  halt_inner {k p t r} : p.after = t :: r → t.ty ≠ .eof → Halt k p
  levels : OperandLevels tbl lo

/-- the loops that end where their call ends; for `CRel` this is `Side` (Proofs/Context.lean) -/
def SideG (Halt : Nat → PState → Prop) (c : Call N) (o : Out N) : Prop :=
  match c with
  | .expr k _ | .loop k _ _ | .dot k _ | .prhs k _ => Halt k o.state
  | _ => True

def Carries (tbl : ParserTable) (Rel : Nat → PState → PState → Prop) (Halt : Nat → PState → Prop) (c : Call N) (o : Out N) : Prop :=
  ∀ (n : Nat) (tok' : Token) (p' : PState), need c ≤ n → Rel n c.state p' → TokRel c.tok tok' → SideG Halt c o →
    ∃ p1', Rel n o.state p1' ∧ R tbl (c.retarget tok' p') (o.setState p1')

section
open Jmes.Spec

theorem sliceG_types {s : List Token} (h : SliceG s) : ∀ t ∈ s, t.ty = .number ∨ t.ty = .colon := by
  have hopt : ∀ {l : List Token}, OptNum l → ∀ t ∈ l, t.ty = .number ∨ t.ty = .colon := by
    rintro l (rfl | ⟨n, rfl, hn⟩) t ht
    · cases ht
    · rw [List.mem_singleton.mp ht]; exact Or.inl hn
  obtain ⟨a, c1, b, ha, hc1, hb, rfl | ⟨c2, c, hc2, hc, rfl⟩⟩ := h
  · simp only [List.forall_mem_append, List.forall_mem_cons]
    exact ⟨hopt ha, Or.inr hc1, hopt hb⟩
  · simp only [List.forall_mem_append, List.forall_mem_cons]
    exact ⟨hopt ha, Or.inr hc1, hopt hb, Or.inr hc2, hopt hc⟩

/-- The index / slice scanner sees only the tokens it consumes, none of them the end of input, and of those only the
    types and the values of the numbers -/
theorem parseIndex_frame {p p1 : PState} {right : Node N} {t0 : Token} {rest0 : List Token}
    (hidx : parseIndexExpression p = .ok (right, p1)) (hafter : p.after = t0 :: rest0)
    (hnc : t0.ty = .number ∨ t0.ty = .colon) :
    ∃ S, Seg p p1 S ∧ (∀ t ∈ S, t.ty ≠ .eof) ∧ ∀ (q : PState) (S' Z : List Token), ToksRel S S' → q.after = S' ++ Z →
      parseIndexExpression q = .ok (right, ⟨S'.reverse ++ q.before, Z⟩) := by
  obtain ⟨body, r, hseg, hr, hbody⟩ := parseIndex_inv hidx hafter hnc
  have hne : ∀ t ∈ body ++ [r], t.ty ≠ .eof := by
    intro t ht
    rcases List.mem_append.mp ht with ht | ht
    · rcases hbody with ⟨nn, rfl, hnn, _, _⟩ | ⟨hsl, _⟩
      · rw [List.mem_singleton.mp ht]; exact ne_eof hnn
      · exact (sliceG_types hsl t ht).elim (ne_eof ·) (ne_eof ·)
    · rw [List.mem_singleton.mp ht]; exact ne_eof hr
  -- read in front of anything else, tokens like the consumed ones give some node …
  have hF : ∃ nd : Node N, ∀ (q : PState) (S' Z : List Token), ToksRel (body ++ [r]) S' → q.after = S' ++ Z →
      parseIndexExpression q = .ok (nd, ⟨S'.reverse ++ q.before, Z⟩) := by
    rcases hbody with ⟨nn, rfl, hnn, _, hno⟩ | ⟨hsl, hno⟩
    · obtain ⟨i, hi⟩ := Option.isSome_iff_exists.mp (hno nn (by simp) hnn)
      refine ⟨.index i, fun q S' Z hrel hq => ?_⟩
      cases hrel with
      | cons hnn' h1 =>
      cases h1 with
      | cons hrr h2 =>
      cases h2
      cases q; subst hq
      exact index_cons rfl (hnn'.ty_eq hnn) (hrr.ty_eq hr) (hnn'.value_of hnn rfl ▸ hi)
    · obtain ⟨nd, _, _, hparse⟩ := slice_parse_rel hsl hno
      refine ⟨nd, fun q S' Z hrel hq => ?_⟩
      obtain ⟨body', _, rfl, hbb, h1⟩ := hrel.append_inv
      cases h1 with
      | cons hrr h2 =>
      cases h2
      cases q; subst hq
      simpa [List.reverse_append] using hparse body' hbb _ Z _ (hrr.ty_eq hr)
  obtain ⟨nd, hF⟩ := hF
  -- … which is `right`, since `p` is such a state
  have := hF p _ p1.after (.refl _) hseg.after
  rw [hidx, Res.ok.injEq, Prod.mk.injEq] at this
  obtain ⟨rfl, _⟩ := this
  exact ⟨body ++ [r], hseg, hne, hF⟩

end

section
variable {tbl : ParserTable} {Rel : Nat → PState → PState → Prop} {Halt : Nat → PState → Prop} {lo : Nat}

theorem Carries.run {c : Call N} {o : Out N} (ih : Carries tbl Rel Halt c o) {n : Nat} {p' : PState}
    (hrel : Rel n c.state p') (hs : SideG Halt c o) (h0 : need c = 0 := by rfl) :
    ∃ p1', Rel n o.state p1' ∧ R tbl (c.retarget c.tok p') (o.setState p1') :=
  ih n c.tok p' (h0 ▸ Nat.zero_le n) hrel (TokRel.refl _) hs

/-- `run` for a sub-call whose caller ends where it ends; `k` is the caller's constructor of `R` -/
theorem Carries.wrap {c c2 : Call N} {o : Out N} {o2 : PState → Out N} (ih : Carries tbl Rel Halt c o) {n : Nat} {p' : PState}
    (hrel : Rel n c.state p') (hs : SideG Halt c o)
    (k : ∀ {p1'}, R tbl (c.retarget c.tok p') (o.setState p1') → R tbl c2 (o2 p1')) (h0 : need c = 0 := by rfl) :
    ∃ p1', Rel n o.state p1' ∧ R tbl c2 (o2 p1') :=
  (ih.run hrel hs h0).imp fun _ h => ⟨h.1, k h.2⟩

section
variable (S : Sim N tbl Rel Halt lo) {n : Nat} {p p' : PState}
include S

/-- `adv` without the count.  That one more token lies behind the cursor matters only where `R_sim` goes from a call to one that
    looks back further (`need`): in its cases `expr` and `step`. -/
theorem Sim.step (h : Rel n p p') {t : Token} {r : List Token} (ha : p.after = t :: r) (ht : t.ty ≠ .eof) :
    ∃ t' r', p'.after = t' :: r' ∧ TokRel t t' ∧ Rel n p.advance p'.advance := by
  obtain ⟨t', r', ha', htt, hadv⟩ := S.adv h ha ht
  exact ⟨t', r', ha', htt, S.mono hadv (Nat.le_succ n)⟩

theorem Sim.adv2 (h : Rel n p p') {a b : Token} {rest : List Token} (ha : p.after = a :: b :: rest) (h1 : a.ty ≠ .eof)
    (h2 : b.ty ≠ .eof) :
    ∃ a' b' rest', p'.after = a' :: b' :: rest' ∧ TokRel a a' ∧ TokRel b b' ∧ Rel n p.advance.advance p'.advance.advance := by
  obtain ⟨a', r1, ha', haa, hadv⟩ := S.step h ha h1
  obtain ⟨b', r2, hb', hbb, hadv2⟩ := S.step hadv (advance_after_cons ha) h2
  rw [advance_after_cons ha'] at hb'
  exact ⟨a', b', r2, by rw [ha', hb'], haa, hbb, hadv2⟩

theorem Sim.same (h : Rel n p p') {t : Token} {r : List Token} (ha : p.after = t :: r) (ht : t.ty ≠ .eof) :
    ∃ t' r', p'.after = t' :: r' ∧ TokRel t t' := by
  obtain ⟨t', r', ha', htt, _⟩ := S.adv h ha ht
  exact ⟨t', r', ha', htt⟩

theorem Sim.look (h : Rel n p p') {t : Token} {r : List Token} (ha : p.after = t :: r) (P : TokType → Prop) (hP : P t.ty)
    (hfol : ∀ ty, followerOK ty = true → P ty) :
    ∃ t' r', p'.after = t' :: r' ∧ P t'.ty := by
  obtain ⟨t', r', ha', h'⟩ := S.peek h ha
  refine ⟨t', r', ha', ?_⟩
  rcases h' with htt | ⟨_, hf, _⟩
  · exact htt.1 ▸ hP
  · exact hfol _ hf

theorem Sim.stretch (h : Rel n p p') {L Z : List Token} (hs : p.after = L ++ Z) (hne : ∀ t ∈ L, t.ty ≠ .eof) :
    ∃ L' Z', p'.after = L' ++ Z' ∧ ToksRel L L' ∧ Rel n ⟨L.reverse ++ p.before, Z⟩ ⟨L'.reverse ++ p'.before, Z'⟩ := by
  induction L generalizing n p p' with
  | nil => cases hs; exact ⟨[], p'.after, rfl, .nil, h⟩
  | cons s L ih =>
    obtain ⟨s', r', ha', hss, hadv⟩ := S.step h hs (hne s (List.mem_cons_self ..))
    obtain ⟨L', Z', hz, hLL, hrel⟩ := ih hadv (advance_after_cons hs) fun t ht => hne t (List.mem_cons_of_mem _ ht)
    rw [advance_after_cons ha'] at hz
    rw [advance_of_cons hs, advance_of_cons ha'] at hrel
    exact ⟨s' :: L', Z', by rw [ha', hz]; rfl, .cons hss hLL,
      by simpa [List.reverse_cons, List.append_assoc] using hrel⟩

theorem Sim.index (h : Rel n p p') {p1 : PState} {t0 : Token} {rest0 : List Token} {right : Node N}
    (hidx : parseIndexExpression p = .ok (right, p1)) (ha : p.after = t0 :: rest0) (hnc : t0.ty = .number ∨ t0.ty = .colon) :
    ∃ p1', parseIndexExpression p' = .ok (right, p1') ∧ Rel n p1 p1' := by
  obtain ⟨L, hseg, hne, hF⟩ := parseIndex_frame hidx ha hnc
  obtain ⟨L', Z', hz, hLL, hp1⟩ := S.stretch h hseg.after hne
  rw [← hseg.before] at hp1
  exact ⟨_, hF p' L' Z' hLL hz, hp1⟩

end

theorem R_sim (S : Sim N tbl Rel Halt lo) {c : Call N} {o : Out N} (h : R tbl c o) : Carries tbl Rel Halt c o := by
  induction h with (intro n tok' p' hn hrel htt hside)
  | expr hafter hnud _ ih1 ih2 =>
    -- not by `Carries.run`: `nud` is given the other state's token, and `nud` and the loop have `need` 1: `adv` counts `tok`
    -- (`default` is the `Call.tok` of every call but `nud`)
    obtain ⟨tok', r', ha', htt, hadv⟩ := S.adv hrel hafter (nud_ne_eof hnud)
    obtain ⟨p1', hp1, hR1⟩ := ih1 (n + 1) tok' p'.advance (Nat.le_add_left 1 n) hadv htt trivial
    obtain ⟨p2', hp2, hR2⟩ := ih2 (n + 1) default p1' (Nat.le_add_left 1 n) hp1 (TokRel.refl _) hside
    exact ⟨p2', S.mono hp2 (Nat.le_succ n), R.expr ha' hR1 hR2⟩
  | stop hafter hnot =>
    obtain ⟨t', r', ha', ht'⟩ := S.peek hrel hafter
    refine ⟨p', hrel, R.stop ha' ?_⟩
    rcases ht' with htt | ⟨_, _, _, hh⟩
    · rw [← htt.1]; exact hnot
    · exact hh _ hside
  | step hafter hlt hled _ ih1 ih2 =>
    -- `led` may look back at two tokens: `t`, which `adv` counts, and the one the loop had behind it (`hn`)
    obtain ⟨t', r', ha', htt, hadv⟩ := S.adv hrel hafter (led_ne_eof hled)
    obtain ⟨p1', hp1, hR1⟩ := ih1 (n + 1) default p'.advance (Nat.succ_le_succ hn) hadv (TokRel.refl _) trivial
    obtain ⟨p2', hp2, hR2⟩ := ih2 (n + 1) default p1' (Nat.le_add_left 1 n) hp1 (TokRel.refl _) hside
    exact ⟨p2', S.mono hp2 (Nat.le_succ n), R.step ha' (htt.1 ▸ hlt) (htt.1 ▸ hR1) hR2⟩
  | nudJson hty hdec =>
    exact ⟨p', hrel, R.nudJson (htt.ty_eq hty) (htt.value_of hty rfl ▸ hdec)⟩
  | nudRaw hty =>
    exact ⟨p', hrel, htt.value_of hty rfl ▸ R.nudRaw (htt.ty_eq hty)⟩
  | nudIdent hty =>
    exact ⟨p', hrel, htt.value_of hty rfl ▸ R.nudIdent (htt.ty_eq hty)⟩
  | nudQuoted hty hafter hne =>
    obtain ⟨t', r', ha', ht'⟩ := S.look hrel hafter (· ≠ .lparen) hne (fun _ h => follower_ne h rfl)
    exact ⟨p', hrel, htt.value_of hty rfl ▸ R.nudQuoted (htt.ty_eq hty) ha' ht'⟩
  | nudCurrent hty => exact ⟨p', hrel, R.nudCurrent (htt.ty_eq hty)⟩
  | nudNot hty _ ih =>
    exact ih.wrap hrel (S.halt_level S.levels.nudNot) (R.nudNot (htt.ty_eq hty))
  | nudParen hty _ hafter hrp ih =>
    have hte := ne_eof hrp
    obtain ⟨p1', hp1, hR⟩ := ih.run hrel (S.halt_inner hafter hte)
    obtain ⟨t', r', ha', htt', hadv⟩ := S.step hp1 hafter hte
    exact ⟨p1'.advance, hadv, R.nudParen (htt.ty_eq hty) hR ha' (htt'.ty_eq hrp)⟩
  | nudIndex hty hafter hnum hrb hat =>
    obtain ⟨n', rb', rest', ha', hnn, hbb, hadv⟩ := S.adv2 hrel hafter (ne_eof hnum) (ne_eof hrb)
    exact ⟨_, hadv, R.nudIndex (htt.ty_eq hty) ha' (hnn.ty_eq hnum) (hbb.ty_eq hrb)
      (hnn.value_of hnum rfl ▸ hat)⟩
  | nudList hty hafter h1 h2 h3 _ ih =>
    obtain ⟨t', r', ha', ht'⟩ := S.look hrel hafter (fun ty => ty ≠ .number ∧ ty ≠ .colon ∧ ty ≠ .star) ⟨h1, h2, h3⟩
      (fun _ h => ⟨follower_ne h rfl, follower_ne h rfl, follower_ne h rfl⟩)
    exact ih.wrap hrel trivial (R.nudList (htt.ty_eq hty) ha' ht'.1 ht'.2.1 ht'.2.2)
  | nudHash hty _ ih =>
    exact ih.wrap hrel trivial (R.nudHash (htt.ty_eq hty))
  | ledDot hafter hns _ ih =>
    obtain ⟨t', r', ha', ht'⟩ := S.look hrel hafter (· ≠ .star) hns (fun _ h => follower_ne h rfl)
    exact ih.wrap hrel (S.halt_level S.levels.ledDotSub) (R.ledDot ha' ht')
  | ledPipe _ ih =>
    exact ih.wrap hrel (S.halt_level S.levels.ledPipe) R.ledPipe
  | ledOr _ ih =>
    exact ih.wrap hrel (S.halt_level S.levels.ledOr) R.ledOr
  | ledAnd _ ih =>
    exact ih.wrap hrel (S.halt_level S.levels.ledAnd) R.ledAnd
  | ledCmp hop _ ih =>
    exact ih.wrap hrel (S.halt_level (S.levels.ledCmp hop)) (R.ledCmp hop)
  | ledCall0 hbef hprev hafter hrp =>
    obtain ⟨lp', prev', more', hb', hpp⟩ := S.before2 hrel hn hbef
    obtain ⟨t', r', ha', htt', hadv⟩ := S.step hrel hafter (ne_eof hrp)
    exact ⟨_, hadv, R.ledCall0 hb' (hpp.ty_eq hprev) ha' (htt'.ty_eq hrp)⟩
  | ledCall hbef hprev hafter0 hne hargs hafter hrp ih =>
    obtain ⟨lp', prev', more', hb', hpp⟩ := S.before2 hrel hn hbef
    -- the argument list does not start where the phrase ends
    obtain ⟨t0', r0', ha0', htt0⟩ := S.same hrel hafter0 (args_head hargs hafter0)
    obtain ⟨p1', hp1, hR⟩ := ih.run hrel trivial
    obtain ⟨t', r', ha', htt', hadv⟩ := S.step hp1 hafter (ne_eof hrp)
    exact ⟨_, hadv, R.ledCall hb' (hpp.ty_eq hprev) ha0' (htt0.ty_ne hne) hR ha' (htt'.ty_eq hrp)⟩
  | ledIndex hafter hnum hrb hat =>
    obtain ⟨n', rb', rest', ha', hnn, hbb, hadv⟩ := S.adv2 hrel hafter (ne_eof hnum) (ne_eof hrb)
    exact ⟨_, hadv, R.ledIndex ha' (hnn.ty_eq hnum) (hbb.ty_eq hrb) (hnn.value_of hnum rfl ▸ hat)⟩
  | dotIdent hafter hty _ ih =>
    obtain ⟨t', r', ha', htt'⟩ := S.same hrel hafter (hty.elim (ne_eof ·) (ne_eof ·))
    exact ih.wrap hrel hside (R.dotIdent ha' (htt'.1 ▸ hty))
  | dotList hafter hty _ ih =>
    obtain ⟨t', r', ha', htt', hadv⟩ := S.step hrel hafter (ne_eof hty)
    exact ih.wrap hadv trivial (R.dotList ha' (htt'.ty_eq hty))
  | dotHash hafter hty _ ih =>
    obtain ⟨t', r', ha', htt', hadv⟩ := S.step hrel hafter (ne_eof hty)
    exact ih.wrap hadv trivial (R.dotHash ha' (htt'.ty_eq hty))
  | mslLast _ hafter hty ih =>
    have hte := ne_eof hty
    obtain ⟨p1', hp1, hR⟩ := ih.run hrel (S.halt_inner hafter hte)
    obtain ⟨t', r', ha', htt', hadv⟩ := S.step hp1 hafter hte
    exact ⟨_, hadv, R.mslLast hR ha' (htt'.ty_eq hty)⟩
  | mslMore _ hafter hty _ ih1 ih2 =>
    have hte := ne_eof hty
    obtain ⟨p1', hp1, hR⟩ := ih1.run hrel (S.halt_inner hafter hte)
    obtain ⟨t', r', ha', htt', hadv⟩ := S.step hp1 hafter hte
    exact ih2.wrap hadv trivial (R.mslMore hR ha' (htt'.ty_eq hty))
  | mshLast hafter hk hc _ hafter2 hty ih =>
    obtain ⟨k', c', rest0', ha', hkk, hcc, hadv⟩ := S.adv2 hrel hafter (hk.elim (ne_eof ·) (ne_eof ·)) (ne_eof hc)
    have hte := ne_eof hty
    obtain ⟨p2', hp2, hR⟩ := ih.run hadv (S.halt_inner hafter2 hte)
    obtain ⟨t', r', ha2', htt', hadv2⟩ := S.step hp2 hafter2 hte
    exact ⟨_, hadv2,
      hkk.value_ident hk ▸ R.mshLast ha' (hkk.1 ▸ hk) (hcc.ty_eq hc) hR ha2' (htt'.ty_eq hty)⟩
  | mshMore hafter hk hc _ hafter2 hty _ ih1 ih2 =>
    obtain ⟨k', c', rest0', ha', hkk, hcc, hadv⟩ := S.adv2 hrel hafter (hk.elim (ne_eof ·) (ne_eof ·)) (ne_eof hc)
    have hte := ne_eof hty
    obtain ⟨p2', hp2, hR⟩ := ih1.run hadv (S.halt_inner hafter2 hte)
    obtain ⟨t', r', ha2', htt', hadv2⟩ := S.step hp2 hafter2 hte
    exact ih2.wrap hadv2 trivial fun hR3 =>
      R.mshMore ha' (hkk.1 ▸ hk) (hcc.ty_eq hc) hR ha2' (htt'.ty_eq hty) (hkk.value_ident hk ▸ hR3)
  | argPlainLast hafter0 hne _ hafter hty ih =>
    obtain ⟨t0', r0', ha0', ht0'⟩ := S.look hrel hafter0 (· ≠ .expref) hne (fun _ h => follower_ne h rfl)
    have hte := ne_eof hty
    obtain ⟨p1', hp1, hR⟩ := ih.run hrel (S.halt_inner hafter hte)
    obtain ⟨t', r', ha', htt'⟩ := S.same hp1 hafter hte
    exact ⟨p1', hp1, R.argPlainLast ha0' ht0' hR ha' (htt'.ty_eq hty)⟩
  | argRefLast hafter0 hty0 _ hafter hty ih =>
    obtain ⟨t0', r0', ha0', htt0, hadv0⟩ := S.step hrel hafter0 (ne_eof hty0)
    have hte := ne_eof hty
    obtain ⟨p1', hp1, hR⟩ := ih.run hadv0 (S.halt_inner hafter hte)
    obtain ⟨t', r', ha', htt'⟩ := S.same hp1 hafter hte
    exact ⟨p1', hp1, R.argRefLast ha0' (htt0.ty_eq hty0) hR ha' (htt'.ty_eq hty)⟩
  | argPlainMore hafter0 hne _ hafter hty hafter2 hne2 hargs2 ih1 ih2 =>
    obtain ⟨t0', r0', ha0', ht0'⟩ := S.look hrel hafter0 (· ≠ .expref) hne (fun _ h => follower_ne h rfl)
    have hte := ne_eof hty
    obtain ⟨p1', hp1, hR⟩ := ih1.run hrel (S.halt_inner hafter hte)
    obtain ⟨t', r', ha', htt', hadv⟩ := S.step hp1 hafter hte
    obtain ⟨t2', r2', ha2', htt2⟩ := S.same hadv hafter2 (args_head hargs2 hafter2)
    exact ih2.wrap hadv trivial (R.argPlainMore ha0' ht0' hR ha' (htt'.ty_eq hty) ha2' (htt2.ty_ne hne2))
  | argRefMore hafter0 hty0 _ hafter hty hafter2 hne2 hargs2 ih1 ih2 =>
    obtain ⟨t0', r0', ha0', htt0, hadv0⟩ := S.step hrel hafter0 (ne_eof hty0)
    have hte := ne_eof hty
    obtain ⟨p1', hp1, hR⟩ := ih1.run hadv0 (S.halt_inner hafter hte)
    obtain ⟨t', r', ha', htt', hadv⟩ := S.step hp1 hafter hte
    obtain ⟨t2', r2', ha2', htt2⟩ := S.same hadv hafter2 (args_head hargs2 hafter2)
    exact ih2.wrap hadv trivial (R.argRefMore ha0' (htt0.ty_eq hty0) hR ha' (htt'.ty_eq hty) ha2' (htt2.ty_ne hne2))
  | nudStarR hty hafter hrb =>
    obtain ⟨t', r', ha', htt'⟩ := S.same hrel hafter (ne_eof hrb)
    exact ⟨p', hrel, R.nudStarR (htt.ty_eq hty) ha' (htt'.ty_eq hrb)⟩
  | nudStar hty hafter hnrb hprhs ih =>
    obtain ⟨t', r', ha', hpk⟩ := S.peek hrel hafter
    by_cases hrb' : t'.ty = .rbracket
    · rcases hpk with htt' | ⟨he, _⟩
      · exact absurd (htt'.1 ▸ hrb') hnrb
      · -- the new follower is `]`: the parser takes its `*]` shortcut, with the same result
        obtain ⟨rfl, rfl⟩ := prhs_at_eof hprhs hafter he
        exact ⟨p', hrel, R.nudStarR (htt.ty_eq hty) ha' hrb'⟩
    · exact ih.wrap hrel (S.halt_level S.levels.nudStar) (R.nudStar (htt.ty_eq hty) ha' hrb')
  | nudFilter hty _ ih =>
    exact ih.wrap hrel trivial (R.nudFilter (htt.ty_eq hty))
  | nudFlatten hty _ ih =>
    exact ih.wrap hrel (S.halt_level S.levels.nudFlatten) (R.nudFlatten (htt.ty_eq hty))
  | nudBracketIdx hty hafter hnc hidx _ ih =>
    obtain ⟨t', r', ha', htt'⟩ := S.same hrel hafter (hnc.elim (ne_eof ·) (ne_eof ·))
    obtain ⟨p1', hidx', hp1⟩ := S.index hrel hidx hafter hnc
    exact ih.wrap hp1 trivial (R.nudBracketIdx (htt.ty_eq hty) ha' (htt'.1 ▸ hnc) hidx')
  | nudBracketStar hty hafter hs hrb _ ih =>
    obtain ⟨s', rb', rest', ha', hss, hbb, hadv⟩ := S.adv2 hrel hafter (ne_eof hs) (ne_eof hrb)
    exact ih.wrap hadv (S.halt_level S.levels.nudBracketStar) (R.nudBracketStar (htt.ty_eq hty) ha' (hss.ty_eq hs) (hbb.ty_eq hrb))
  | nudListStar hty hafter hs hnrb hmsl ih =>
    obtain ⟨t', r1, ha1, htt1, hadv1⟩ := S.step hrel hafter (ne_eof hs)
    obtain ⟨u', r2, ha2, huu⟩ := S.same hadv1 (advance_after_cons hafter) (msl_star_eof hmsl hafter hs)
    rw [advance_after_cons ha1] at ha2
    exact ih.wrap hrel trivial (R.nudListStar (htt.ty_eq hty) (by rw [ha1, ha2]) (htt1.ty_eq hs) (huu.ty_ne hnrb))
  | ledDotStar hafter hs _ ih =>
    obtain ⟨t', r', ha', htt', hadv⟩ := S.step hrel hafter (ne_eof hs)
    exact ih.wrap hadv (S.halt_level S.levels.ledDotStar) (R.ledDotStar ha' (htt'.ty_eq hs))
  | ledFilter _ ih =>
    exact ih.wrap hrel trivial R.ledFilter
  | ledFlatten _ ih =>
    exact ih.wrap hrel (S.halt_level S.levels.ledFlatten) R.ledFlatten
  | ledBracketIdx hafter hnc hidx _ ih =>
    obtain ⟨t', r', ha', htt'⟩ := S.same hrel hafter (hnc.elim (ne_eof ·) (ne_eof ·))
    obtain ⟨p1', hidx', hp1⟩ := S.index hrel hidx hafter hnc
    exact ih.wrap hp1 trivial (R.ledBracketIdx ha' (htt'.1 ▸ hnc) hidx')
  | ledBracketStar hafter hs hrb _ ih =>
    obtain ⟨s', rb', rest', ha', hss, hbb, hadv⟩ := S.adv2 hrel hafter (ne_eof hs) (ne_eof hrb)
    exact ih.wrap hadv (S.halt_level S.levels.ledBracketStar) (R.ledBracketStar ha' (hss.ty_eq hs) (hbb.ty_eq hrb))
  | pisSlice hsl _ ih =>
    exact ih.wrap hrel (S.halt_level S.levels.sliceProj) (R.pisSlice hsl)
  | pisIndex hsl => exact ⟨p', hrel, R.pisIndex hsl⟩
  | filterFlat _ hafter hrb hfl ih =>
    have hte := ne_eof hrb
    obtain ⟨p1', hp1, hR⟩ := ih.run hrel (S.halt_inner hafter hte)
    obtain ⟨rb', r1, ha1, hbb, hadv1⟩ := S.step hp1 hafter hte
    obtain ⟨t', r2, ha2, htt'⟩ := S.same hadv1 (advance_after_cons hafter) (ne_eof hfl)
    rw [advance_after_cons ha1] at ha2
    exact ⟨_, hadv1, R.filterFlat hR (by rw [ha1, ha2]) (hbb.ty_eq hrb) (htt'.ty_eq hfl)⟩
  | filterRhs _ hafter hrb hnfl _ ih1 ih2 =>
    have hte := ne_eof hrb
    obtain ⟨p1', hp1, hR⟩ := ih1.run hrel (S.halt_inner hafter hte)
    obtain ⟨rb', r1, ha1, hbb, hadv1⟩ := S.step hp1 hafter hte
    obtain ⟨t', r2, ha2, ht'⟩ := S.look hadv1 (advance_after_cons hafter) (· ≠ .flatten) hnfl (fun _ h => follower_ne h rfl)
    rw [advance_after_cons ha1] at ha2
    exact ih2.wrap hadv1 (S.halt_level S.levels.filterRhs) (R.filterRhs hR (by rw [ha1, ha2]) (hbb.ty_eq hrb) ht')
  | prhsId hafter hlt =>
    obtain ⟨t', r', ha', hpk⟩ := S.peek hrel hafter
    refine ⟨p', hrel, R.prhsId ha' ?_⟩
    rcases hpk with htt' | ⟨_, _, hp, _⟩
    · rw [← htt'.1]; exact hlt
    · exact hp
  | prhsBracket hafter hnlt hty _ ih =>
    obtain ⟨t', r', ha', htt'⟩ := S.same hrel hafter (hty.elim (ne_eof ·) (ne_eof ·))
    exact ih.wrap hrel hside (R.prhsBracket ha' (htt'.1 ▸ hnlt) (htt'.1 ▸ hty))
  | prhsDot hafter hnlt hty _ ih =>
    obtain ⟨t', r', ha', htt', hadv⟩ := S.step hrel hafter (ne_eof hty)
    exact ih.wrap hadv hside (R.prhsDot ha' (htt'.1 ▸ hnlt) (htt'.ty_eq hty))
  | dotStar hafter hty _ ih =>
    obtain ⟨t', r', ha', htt'⟩ := S.same hrel hafter (ne_eof hty)
    exact ih.wrap hrel hside (R.dotStar ha' (htt'.ty_eq hty))

end

theorem sim_PRel (tbl : ParserTable) : Sim N tbl (fun _ => PRel) (fun _ _ => True) 0 where
  mono h _ := h
  adv h ha _ := h.after_cons ha
  peek h ha := by obtain ⟨t', r', ha', htt, _⟩ := h.after_cons ha; exact ⟨t', r', ha', Or.inl htt⟩
  before2 h _ hb := h.before_cons2 hb
  halt_level _ := trivial
  halt_inner _ _ := trivial
  levels := by constructor <;> intros <;> exact Nat.zero_le _

/-- **A successful parse depends on the token types and on the values of
    identifiers, numbers and literals only** — not on positions, not on what
    the lexer stored as the value of an operator token. -/
theorem R_transfer (tbl : ParserTable) {c : Call N} {o : Out N} (h : R tbl c o) : Transfers tbl c o :=
  fun tok' p' hp htt => R_sim (sim_PRel tbl) h 2 tok' p' (need_le_two c) hp htt (by cases c <;> trivial)

end Jmes.Parser
