/-
  Proofs.Sigs — when two function tables agree name by name up to the order
  of a parameter's alternatives (`SigsOK`, decided on the regenerated table on
  every run), `CallFunction` behaves identically with either.  This is what
  carries theorems about the specification's table over to the table found in
  /repo's source.
-/
import Proofs.Functions
namespace Jmes.Props

def allTypes : List JpType := [.number, .string, .array, .object, .arrayNumber, .arrayString, .expref, .any]

/-- A signature up to the order (and repetition) of the alternatives of each parameter. -/
def normArgs (args : List ArgSpec) : List (List Bool × Bool) :=
  args.map (fun a => (allTypes.map (fun t => a.types.contains t), a.variadic))

def findSig (tbl : List FnEntry) (name : Bytes) : Option (List (List Bool × Bool) × Handler × Bool) :=
  (tbl.find? (fun e => Fn.keyBytes e.key = name)).map (fun e => (normArgs e.args, e.handler, e.hasExpRef))

/-- Both tables know exactly the same names, with the same handler, the same
    expression-reference flag and the same signature. -/
def SigsOK (gen spec : List FnEntry) : Bool :=
  (gen.map (fun e => Fn.keyBytes e.key) ++ spec.map (fun e => Fn.keyBytes e.key)).all
    (fun k => findSig gen k == findSig spec k)

end Jmes.Props

namespace Jmes.Fn
open Jmes.Props
variable {N : Type}

theorem mem_allTypes (t : JpType) : t ∈ allTypes := by cases t <;> simp [allTypes]

theorem typeCheck_congr (s1 s2 : ArgSpec) (h : ∀ t, t ∈ s1.types ↔ t ∈ s2.types) (a : Arg N) :
    typeCheck s1 a = typeCheck s2 a := by
  rw [Bool.eq_iff_iff]
  simp only [typeCheck, List.any_eq_true, h]

theorem normArgs_cons {s1 s2 : ArgSpec} {l1 l2 : List ArgSpec} (h : normArgs (s1 :: l1) = normArgs (s2 :: l2)) :
    (∀ t, t ∈ s1.types ↔ t ∈ s2.types) ∧ s1.variadic = s2.variadic ∧ normArgs l1 = normArgs l2 := by
  simp only [normArgs, List.map_cons, List.cons.injEq, Prod.mk.injEq] at h
  obtain ⟨⟨hmask, hvar⟩, htail⟩ := h
  refine ⟨fun t => ?_, hvar, htail⟩
  rw [← List.contains_iff_mem, ← List.contains_iff_mem, List.map_inj_left.mp hmask t (mem_allTypes t)]

theorem checkFixed_congr : ∀ {l1 l2 : List ArgSpec}, normArgs l1 = normArgs l2 → ∀ args : List (Arg N),
    checkFixed l1 args = checkFixed l2 args
  | [], [], _, args => rfl
  | [], _ :: _, h, _ | _ :: _, [], h, _ => by cases h
  | s1 :: l1, s2 :: l2, h, args => by
    obtain ⟨ht, _, hl⟩ := normArgs_cons h
    cases args with
    | nil => rfl
    | cons a as =>
      rw [checkFixed_cons, checkFixed_cons, typeCheck_congr s1 s2 ht a, checkFixed_congr hl as]

theorem checkVariadic_congr {la1 la2 : ArgSpec} (hl : ∀ t, t ∈ la1.types ↔ t ∈ la2.types) :
    ∀ (l1 l2 : List ArgSpec), normArgs l1 = normArgs l2 → ∀ args : List (Arg N),
    checkVariadic la1 l1 args = checkVariadic la2 l2 args
  | l1, l2, _, [] => by cases l1 <;> cases l2 <;> rfl
  | [], [], _, a :: as => by
    rw [checkVariadic_nil_cons, checkVariadic_nil_cons, typeCheck_congr la1 la2 hl a, checkVariadic_congr hl [] [] rfl as]
  | [], _ :: _, h, _ :: _ | _ :: _, [], h, _ :: _ => by cases h
  | s1 :: l1, s2 :: l2, h, a :: as => by
    obtain ⟨ht, _, hn⟩ := normArgs_cons h
    rw [checkVariadic_cons, checkVariadic_cons, typeCheck_congr s1 s2 ht a, checkVariadic_congr hl l1 l2 hn as]

theorem getLast_norm : ∀ {l1 l2 : List ArgSpec}, normArgs l1 = normArgs l2 →
    (l1.getLast? = none ∧ l2.getLast? = none) ∨
    (∃ a1 a2, l1.getLast? = some a1 ∧ l2.getLast? = some a2 ∧ a1.variadic = a2.variadic ∧
      ∀ t, t ∈ a1.types ↔ t ∈ a2.types)
  | [], [], _ => Or.inl ⟨rfl, rfl⟩
  | [], _ :: _, h | _ :: _, [], h => by cases h
  | [s1], [s2], h => by
    obtain ⟨ht, hv, _⟩ := normArgs_cons h
    exact Or.inr ⟨s1, s2, rfl, rfl, hv, ht⟩
  | [_], _ :: _ :: _, h | _ :: _ :: _, [_], h => by cases (normArgs_cons h).2.2  -- the tails: `[]` against a cons
  | s1 :: t1 :: l1, s2 :: t2 :: l2, h => by
    rw [List.getLast?_cons_cons, List.getLast?_cons_cons]
    rcases getLast_norm (normArgs_cons h).2.2 with ⟨e1, _⟩ | h'
    · cases e1
    · exact Or.inr h'

theorem resolveArgs_congr (e1 e2 : FnEntry) (h : normArgs e1.args = normArgs e2.args) (args : List (Arg N)) :
    resolveArgs e1 args = resolveArgs e2 args := by
  have hlen : e1.args.length = e2.args.length := by simpa [normArgs] using congrArg List.length h
  unfold resolveArgs
  rcases getLast_norm h with ⟨hn1, hn2⟩ | ⟨a1, a2, hs1, hs2, hv, ht⟩
  · rw [hn1, hn2]
  · rw [hs1, hs2]
    simp only [hv, hlen]
    rw [checkFixed_congr h args, checkVariadic_congr ht e1.args e2.args h args]

variable [NumOps N]

theorem callFunction_congr (gen spec : List FnEntry) (h : SigsOK gen spec = true) (name : Bytes) (args : List (Arg N)) :
    callFunction gen name args = callFunction spec name args := by
  unfold SigsOK at h
  rw [List.all_eq_true] at h
  unfold callFunction
  by_cases hk : name ∈ gen.map (fun e => keyBytes e.key) ++ spec.map (fun e => keyBytes e.key)
  · have hsig := h name hk
    simp only [findSig, beq_iff_eq] at hsig
    revert hsig
    cases List.find? (fun e => keyBytes e.key = name) gen with
    | none =>
      cases List.find? (fun e => keyBytes e.key = name) spec with
      | none => exact fun _ => rfl
      | some e => exact nofun
    | some g =>
      cases List.find? (fun e => keyBytes e.key = name) spec with
      | none => exact nofun
      | some e =>
        intro hsig
        simp only [Option.map_some, Option.some.injEq, Prod.mk.injEq] at hsig
        obtain ⟨hargs, hhandler, hflag⟩ := hsig
        dsimp only
        rw [resolveArgs_congr g e hargs args, hhandler, hflag]
  · have hnone : ∀ tbl : List FnEntry, name ∉ tbl.map (fun e => keyBytes e.key) →
        tbl.find? (fun e => keyBytes e.key = name) = none := fun tbl hn =>
      List.find?_eq_none.mpr fun e he hn' => hn (List.mem_map.mpr ⟨e, he, by simpa using hn'⟩)
    rw [hnone gen fun h => hk (List.mem_append_left _ h), hnone spec fun h => hk (List.mem_append_right _ h)]

end Jmes.Fn
