/-
  Proofs.Typed — the reflection paths agree with the generic paths on the JSON
  form of the document (C18): for navigational expressions, evaluating on a
  typed document and taking the JSON form of the result is evaluating on the
  JSON form of the document.

  Two case analyses carry the proofs.  `Top.cases`: a value the interpreter holds is never a typed nil and
  a pointer points to a struct, so once its shape is known both `evalT` and `eval` on its `view` compute.
  `Rel.cases`: related outcomes are of the same kind, so opening one side of a bind opens the other.
  A typed slice behaves as the array of its elements passed through `interfaceOf`.
-/
import Jmes.Typed
import Proofs.Slice
import Proofs.Value
namespace Jmes.Typed
open Jmes.Interp
variable {N : Type}

/- How the recursive definitions compute, by `rfl`, on the forms of input where a proof has to rewrite (elsewhere `rfl`,
   `congrArg` or `show` let Lean compute).  For `simp only [view]` or `unfold view` Lean first proves the unfolding equation
   of the nested recursion, which is far dearer. -/
theorem view_obj (kvs : List (Bytes × TVal N)) : view (.obj kvs) = .obj (viewKVs kvs) := rfl
theorem view_slice (xs : List (TVal N)) : view (.slice xs) = .arr (viewList xs) := rfl
theorem view_struct_obj (fs : List (Bytes × TVal N)) :
    view (.struct fs) = .obj ((viewKVs fs).foldl (fun m kv => Val.insert kv.1 kv.2 m) []) := rfl
theorem viewKVs_cons (k : Bytes) (v : TVal N) (rest : List (Bytes × TVal N)) :
    viewKVs ((k, v) :: rest) = (k, view v) :: viewKVs rest := rfl
theorem lookupT_cons (k k' : Bytes) (v : TVal N) (rest : List (Bytes × TVal N)) :
    lookupT k ((k', v) :: rest) = if k' = k then some v else lookupT k rest := rfl
theorem insertT_cons (k k' : Bytes) (v v' : TVal N) (rest : List (Bytes × TVal N)) :
    insertT k v ((k', v') :: rest) =
      if k' = k then (k, v) :: rest else if Val.bytesLt k k' then (k, v) :: (k', v') :: rest else (k', v') :: insertT k v rest :=
  rfl

theorem viewList_eq_map (xs : List (TVal N)) : viewList xs = xs.map view := by
  induction xs with
  | nil => rfl
  | cons x xs ih => exact congrArg (view x :: ·) ih

theorem view_interfaceOf (v : TVal N) : view (interfaceOf v) = view v := by
  cases v <;> rfl

theorem viewList_map_interfaceOf (xs : List (TVal N)) : viewList (xs.map interfaceOf) = viewList xs := by
  simp [viewList_eq_map, view_interfaceOf]

theorem viewList_append (xs ys : List (TVal N)) : viewList (xs ++ ys) = viewList xs ++ viewList ys := by
  simp [viewList_eq_map]

theorem lookup_viewKVs (k : Bytes) (kvs : List (Bytes × TVal N)) :
    Val.lookup k (viewKVs kvs) = (lookupT k kvs).map view := by
  induction kvs with
  | nil => rfl
  | cons kv rest ih =>
    obtain ⟨k', v⟩ := kv
    simp only [viewKVs_cons, Val.lookup, lookupT_cons]
    split <;> simp [ih]

theorem lookupT_mem {k : Bytes} {v : TVal N} : {kvs : List (Bytes × TVal N)} → lookupT k kvs = some v → (k, v) ∈ kvs
  | (k', v') :: rest, h => by
    rw [lookupT_cons] at h
    split at h
    · cases h; subst k'; exact List.mem_cons_self ..
    · exact List.mem_cons_of_mem _ (lookupT_mem h)

mutual
theorem view_ofVal : (v : Val N) → view (ofVal v) = v
  | .null | .bool _ | .num _ | .str _ => rfl
  | .arr xs => congrArg Val.arr (viewList_ofVals xs)
  | .obj kvs => congrArg Val.obj (viewKVs_ofKVs kvs)
theorem viewList_ofVals : (xs : List (Val N)) → viewList (ofVals xs) = xs
  | [] => rfl
  | x :: xs => congr (congrArg List.cons (view_ofVal x)) (viewList_ofVals xs)
theorem viewKVs_ofKVs : (kvs : List (Bytes × Val N)) → viewKVs (ofKVs kvs) = kvs
  | [] => rfl
  | (k, v) :: rest => congr (congrArg (fun a => List.cons (k, a)) (view_ofVal v)) (viewKVs_ofKVs rest)
end

def isStruct : TVal N → Bool
  | .struct _ => true
  | _ => false

def notNilptr : TVal N → Bool
  | .nilptr => false
  | _ => true

mutual
/-- The documents of C18: structs have at least one field and distinct field
    names, pointers point to structs, `[]interface{}` and
    `map[string]interface{}` hold no typed nil pointer directly (the library
    itself never puts one there: everything it takes out of a struct or a typed
    slice goes through `interfaceOf`). -/
def WFT : TVal N → Prop
  | .arr xs => WFTElems xs
  | .obj kvs => WFTVals kvs
  | .struct fs => fs ≠ [] ∧ (fs.map (·.1)).Nodup ∧ WFTFields fs
  | .ptr t => isStruct t = true ∧ WFT t
  | .slice xs => WFTSlice xs
  | _ => True
def WFTElems : List (TVal N) → Prop
  | [] => True
  | x :: xs => notNilptr x = true ∧ WFT x ∧ WFTElems xs
def WFTVals : List (Bytes × TVal N) → Prop
  | [] => True
  | (_, v) :: rest => notNilptr v = true ∧ WFT v ∧ WFTVals rest
def WFTFields : List (Bytes × TVal N) → Prop
  | [] => True
  | (_, v) :: rest => WFT v ∧ WFTFields rest
def WFTSlice : List (TVal N) → Prop
  | [] => True
  | x :: xs => WFT x ∧ WFTSlice xs
end

/-- What the interpreter holds at any moment. -/
def Top (v : TVal N) : Prop := notNilptr v = true ∧ WFT v

theorem top_null : Top (.null : TVal N) := ⟨rfl, trivial⟩

theorem top_interfaceOf {v : TVal N} (h : WFT v) : Top (interfaceOf v) := by
  cases v with
  | nilptr => exact top_null
  | _ => exact ⟨rfl, h⟩

theorem wftElems_iff : {xs : List (TVal N)} → (WFTElems xs ↔ ∀ x ∈ xs, Top x)
  | [] => iff_of_true trivial nofun
  | x :: xs => Iff.symm (List.forall_mem_cons.trans ((and_congr_right' wftElems_iff.symm).trans and_assoc))

theorem top_arr {xs : List (TVal N)} (h : ∀ x ∈ xs, Top x) : Top (.arr xs) := ⟨rfl, wftElems_iff.mpr h⟩

theorem wftVals_iff : {kvs : List (Bytes × TVal N)} → (WFTVals kvs ↔ ∀ kv ∈ kvs, Top kv.2)
  | [] => iff_of_true trivial nofun
  | (_, v) :: kvs => Iff.symm (List.forall_mem_cons.trans ((and_congr_right' wftVals_iff.symm).trans and_assoc))

theorem wftFields_iff : {fs : List (Bytes × TVal N)} → (WFTFields fs ↔ ∀ kv ∈ fs, WFT kv.2)
  | [] => iff_of_true trivial nofun
  | (_, v) :: fs => Iff.symm (List.forall_mem_cons.trans (and_congr_right' wftFields_iff.symm))

theorem wftSlice_iff : {xs : List (TVal N)} → (WFTSlice xs ↔ ∀ x ∈ xs, WFT x)
  | [] => iff_of_true trivial nofun
  | x :: xs => Iff.symm (List.forall_mem_cons.trans (and_congr_right' wftSlice_iff.symm))

theorem top_slice_elems {xs : List (TVal N)} (h : WFTSlice xs) : ∀ x ∈ xs.map interfaceOf, Top x :=
  List.forall_mem_map.mpr fun y hy => top_interfaceOf (wftSlice_iff.mp h y hy)

@[elab_as_elim] theorem Top.cases {motive : (d : TVal N) → Top d → Prop} {d : TVal N} (h : Top d)
    (null : motive .null ⟨rfl, trivial⟩) (bool : ∀ b, motive (.bool b) ⟨rfl, trivial⟩)
    (num : ∀ n, motive (.num n) ⟨rfl, trivial⟩) (str : ∀ s, motive (.str s) ⟨rfl, trivial⟩)
    (arr : ∀ xs (h : ∀ x ∈ xs, Top x), motive (.arr xs) (top_arr h))
    (obj : ∀ kvs (h : ∀ kv ∈ kvs, Top kv.2), motive (.obj kvs) ⟨rfl, wftVals_iff.mpr h⟩)
    (struct : ∀ fs (h : WFT (.struct fs)), motive (.struct fs) ⟨rfl, h⟩)
    (ptr : ∀ fs (h : WFT (.struct fs)), motive (.ptr (.struct fs)) ⟨rfl, rfl, h⟩)
    (slice : ∀ xs (h : WFTSlice xs), motive (.slice xs) ⟨rfl, h⟩) : motive d h := by
  obtain ⟨hn, hw⟩ := h
  cases d with
  | nilptr => cases hn
  | ptr t =>
    cases t with
    | struct fs => exact ptr fs hw.2
    | _ => cases hw.1
  | null => exact null
  | bool b => exact bool b
  | num n => exact num n
  | str s => exact str s
  | arr xs => exact arr xs (wftElems_iff.mp hw)
  | obj kvs => exact obj kvs (wftVals_iff.mp hw)
  | struct fs => exact struct fs hw
  | slice xs => exact slice xs hw

theorem keys_viewKVs (fs : List (Bytes × TVal N)) : (viewKVs fs).map (·.1) = fs.map (·.1) := by
  induction fs with
  | nil => rfl
  | cons kv rest ih => obtain ⟨k, v⟩ := kv; simp [viewKVs_cons, ih]

theorem lookup_view_struct (k : Bytes) {fs : List (Bytes × TVal N)} (h : WFT (.struct fs)) :
    Val.lookup k ((viewKVs fs).foldl (fun m kv => Val.insert kv.1 kv.2 m) []) = (lookupT k fs).map view := by
  have hnd : ((viewKVs fs).map (·.1)).Nodup := keys_viewKVs fs ▸ h.2.1
  rw [Val.lookup_foldl_insert_or, Val.lookup_reverse_of_distinct k _ (List.pairwise_map.mp hnd), lookup_viewKVs]
  exact Option.or_none

theorem view_struct_ne_nil {fs : List (Bytes × TVal N)} (h : WFT (.struct fs)) :
    (viewKVs fs).foldl (fun m kv => Val.insert kv.1 kv.2 m) [] ≠ [] := by
  obtain ⟨⟨k, v⟩, rest, rfl⟩ := List.exists_cons_of_ne_nil h.1
  intro e
  have := lookup_view_struct k h  -- the first field can be looked up in the object
  rw [e] at this
  simp [lookupT_cons, Val.lookup] at this

theorem fieldOfStruct_view (k : Bytes) {fs : List (Bytes × TVal N)} (h : WFT (.struct fs)) :
    (Val.lookup k ((viewKVs fs).foldl (fun m kv => Val.insert kv.1 kv.2 m) [])).getD .null = view (fieldOfStruct k fs) ∧
      Top (fieldOfStruct k fs) := by
  rw [lookup_view_struct k h]
  unfold fieldOfStruct
  cases hl : lookupT k fs with
  | none => exact ⟨rfl, top_null⟩
  | some v => exact ⟨(view_interfaceOf v).symm, top_interfaceOf (wftFields_iff.mp h.2.2 _ (lookupT_mem hl))⟩

theorem indexT_slice (i : Int) (xs : List (TVal N)) : indexT i (.slice xs) = indexT i (.arr (xs.map interfaceOf)) := by
  have (n : Nat) : (xs.map interfaceOf).getD n .null = interfaceOf (xs.getD n .null) := by
    simp only [List.getD_eq_getElem?_getD, List.getElem?_map]
    cases xs[n]? <;> rfl
  simp only [indexT, List.length_map, this]

theorem indexArr_view {xs : List (TVal N)} (h : ∀ x ∈ xs, Top x) (i : Int) :
    indexArr (viewList xs) i = view (indexT i (.arr xs)) ∧ Top (indexT i (.arr xs)) := by
  simp only [indexT, indexArr, viewList_eq_map, List.length_map]
  generalize (if i < 0 then i + (xs.length : Int) else i) = idx
  split
  · rw [List.getD_eq_getElem?_getD, List.getD_eq_getElem?_getD, List.getElem?_map]
    cases hx : xs[idx.toNat]? with
    | none => exact ⟨rfl, top_null⟩
    | some x => exact ⟨rfl, h x (List.mem_of_getElem? hx)⟩
  · exact ⟨rfl, top_null⟩

theorem isFalse_view {d : TVal N} (h : Top d) : (view d).isFalse = isFalseT d := by
  induction h using Top.cases with
  | arr xs | slice xs => cases xs <;> rfl
  | obj kvs => cases kvs with | nil => rfl | cons kv _ => cases kv; rfl
  | struct fs hw | ptr fs hw =>
    -- `isFalse` of an object asks whether it is empty, `isFalseT` of a struct is `false`
    show List.isEmpty ((viewKVs fs).foldl (fun m kv => Val.insert kv.1 kv.2 m) []) = false
    exact List.isEmpty_eq_false_iff.mpr (view_struct_ne_nil hw)
  | _ => rfl

theorem view_flattenArr : {xs : List (TVal N)} → (∀ x ∈ xs, Top x) →
    viewList (flattenArr xs) = flattenOnce (viewList xs) ∧ ∀ y ∈ flattenArr xs, Top y
  | [], _ => ⟨rfl, nofun⟩
  | x :: rest, h => by
    have ⟨hx, hr⟩ := List.forall_mem_cons.mp h
    have ⟨ih1, ih2⟩ := view_flattenArr hr
    have hx' := hx   -- `induction` consumes `hx`
    induction hx using Top.cases with
    | arr ys hw =>
      exact ⟨(viewList_append ys _).trans (congrArg (viewList ys ++ ·) ih1), List.forall_mem_append.mpr ⟨hw, ih2⟩⟩
    | slice ys hw =>
      refine ⟨?_, List.forall_mem_append.mpr ⟨top_slice_elems hw, ih2⟩⟩
      show viewList (ys.map interfaceOf ++ flattenArr rest) = viewList ys ++ flattenOnce (viewList rest)
      rw [viewList_append, viewList_map_interfaceOf, ih1]
    | _ => exact ⟨congrArg (_ :: ·) ih1, List.forall_mem_cons.mpr ⟨hx', ih2⟩⟩

theorem map_interfaceOf_of_top {ys : List (TVal N)} (h : ∀ y ∈ ys, Top y) : ys.map interfaceOf = ys := by
  refine (List.map_congr_left fun y hy => ?_).trans (List.map_id ys)
  cases y with
  | nilptr => cases (h _ hy).1
  | _ => rfl

/-- `flattenWithReflection` is the generic loop on the elements as `interfaceOf` hands them out. -/
theorem flattenSlice_eq : {xs : List (TVal N)} → WFTSlice xs → flattenSlice xs = flattenArr (xs.map interfaceOf)
  | [], _ => rfl
  | x :: rest, h => by
    have ih := flattenSlice_eq h.2
    cases x with
    | arr ys =>
      show ys.map interfaceOf ++ flattenSlice rest = ys ++ flattenArr (rest.map interfaceOf)
      rw [map_interfaceOf_of_top (wftElems_iff.mp h.1), ih]
    | slice ys => exact congrArg (ys.map interfaceOf ++ ·) ih
    | _ => exact congrArg (_ :: ·) ih

mutual
theorem top_ofVal : (v : Val N) → Top (ofVal v)
  | .null | .bool _ | .num _ | .str _ => ⟨rfl, trivial⟩
  | .arr xs => ⟨rfl, elemsOK_ofVals xs⟩
  | .obj kvs => ⟨rfl, valsOK_ofKVs kvs⟩
theorem elemsOK_ofVals : (xs : List (Val N)) → WFTElems (ofVals xs)
  | [] => trivial
  | x :: xs => ⟨(top_ofVal x).1, (top_ofVal x).2, elemsOK_ofVals xs⟩
theorem valsOK_ofKVs : (kvs : List (Bytes × Val N)) → WFTVals (ofKVs kvs)
  | [] => trivial
  | (_, v) :: rest => ⟨(top_ofVal v).1, (top_ofVal v).2, valsOK_ofKVs rest⟩
end

/-- One turn of the loop that builds a multi-select hash. -/
theorem insertT_rel (k : Bytes) {v : TVal N} (hv : Top v) : {m : List (Bytes × TVal N)} → (∀ kv ∈ m, Top kv.2) →
    Val.insert k (view v) (viewKVs m) = viewKVs (insertT k v m) ∧ ∀ kv ∈ insertT k v m, Top kv.2
  | [], _ => ⟨rfl, List.forall_mem_cons.mpr ⟨hv, nofun⟩⟩
  | (k', v') :: rest, h => by
    have ⟨h1, h2⟩ := List.forall_mem_cons.mp h
    have ih := insertT_rel k hv h2
    rw [insertT_cons, viewKVs_cons, Val.insert]
    by_cases hk : k' = k
    · simp only [if_pos hk]
      exact ⟨rfl, List.forall_mem_cons.mpr ⟨hv, h2⟩⟩
    · simp only [if_neg hk]
      by_cases hlt : Val.bytesLt k k' = true
      · simp only [if_pos hlt]
        exact ⟨rfl, List.forall_mem_cons.mpr ⟨hv, h⟩⟩
      · simp only [if_neg hlt]
        exact ⟨congrArg (_ :: ·) ih.1, List.forall_mem_cons.mpr ⟨h1, ih.2⟩⟩

theorem foldl_insertT_rel : (ps acc : List (Bytes × TVal N)) → (∀ kv ∈ ps, Top kv.2) → (∀ kv ∈ acc, Top kv.2) →
    (viewKVs ps).foldl (fun m kv => Val.insert kv.1 kv.2 m) (viewKVs acc) =
        viewKVs (ps.foldl (fun m kv => insertT kv.1 kv.2 m) acc) ∧
      ∀ kv ∈ ps.foldl (fun m kv => insertT kv.1 kv.2 m) acc, Top kv.2
  | [], _, _, hacc => ⟨rfl, hacc⟩
  | (k, v) :: rest, acc, hps, hacc => by
    have ⟨hp, hrest⟩ := List.forall_mem_cons.mp hps
    have ⟨e, ht⟩ := insertT_rel k hp hacc
    simp only [List.foldl_cons, viewKVs_cons, e]
    exact foldl_insertT_rel rest _ hrest ht

def Rel (rt : Res (TVal N)) (rv : Res (Val N)) : Prop :=
  match rt, rv with
  | .ok r, .ok v => v = view r ∧ Top r
  | .err a, .err b => a = b
  | .panic a, .panic b => a = b
  | _, _ => False

def RelList (rt : Res (List (TVal N))) (rv : Res (List (Val N))) : Prop :=
  match rt, rv with
  | .ok r, .ok v => v = viewList r ∧ ∀ t ∈ r, Top t
  | .err a, .err b => a = b
  | .panic a, .panic b => a = b
  | _, _ => False

def RelKVs (rt : Res (List (Bytes × TVal N))) (rv : Res (List (Bytes × Val N))) : Prop :=
  match rt, rv with
  | .ok r, .ok v => v = viewKVs r ∧ ∀ kv ∈ r, Top kv.2
  | .err a, .err b => a = b
  | .panic a, .panic b => a = b
  | _, _ => False

@[elab_as_elim] theorem Rel.cases {motive : Res (TVal N) → Res (Val N) → Prop} {rt rv} (h : Rel rt rv)
    (ok : ∀ t, Top t → motive (.ok t) (.ok (view t))) (err : ∀ e, motive (.err e) (.err e))
    (panic : ∀ s, motive (.panic s) (.panic s)) : motive rt rv := by
  unfold Rel at h
  split at h
  · exact h.1 ▸ ok _ h.2
  · exact h ▸ err _
  · exact h ▸ panic _
  · exact h.elim

@[elab_as_elim] theorem RelList.cases {motive : Res (List (TVal N)) → Res (List (Val N)) → Prop} {rt rv} (h : RelList rt rv)
    (ok : ∀ ts, (∀ t ∈ ts, Top t) → motive (.ok ts) (.ok (viewList ts))) (err : ∀ e, motive (.err e) (.err e))
    (panic : ∀ s, motive (.panic s) (.panic s)) : motive rt rv := by
  unfold RelList at h
  split at h
  · exact h.1 ▸ ok _ h.2
  · exact h ▸ err _
  · exact h ▸ panic _
  · exact h.elim

@[elab_as_elim] theorem RelKVs.cases {motive : Res (List (Bytes × TVal N)) → Res (List (Bytes × Val N)) → Prop} {rt rv}
    (h : RelKVs rt rv) (ok : ∀ ts, (∀ t ∈ ts, Top t.2) → motive (.ok ts) (.ok (viewKVs ts)))
    (err : ∀ e, motive (.err e) (.err e)) (panic : ∀ s, motive (.panic s) (.panic s)) : motive rt rv := by
  unfold RelKVs at h
  split at h
  · exact h.1 ▸ ok _ h.2
  · exact h ▸ err _
  · exact h ▸ panic _
  · exact h.elim

theorem slice_rel {xs : List (TVal N)} (hxs : ∀ x ∈ xs, Top x) (a b c : Option Int) :
    RelList (Slice.slice xs a b c) (Slice.slice (viewList xs) a b c) := by
  rw [viewList_eq_map, Slice.slice_map]
  cases h : Slice.slice xs a b c with
  | ok ys => exact ⟨(viewList_eq_map ys).symm, fun y hy => hxs y (Slice.slice_mem xs a b c ys h y hy)⟩
  | _ => rfl

theorem keep_rel {y : TVal N} {ys : List (TVal N)} (hty : Top y) (htys : ∀ t ∈ ys, Top t) :
    (match view y with | .null => viewList ys | _ => view y :: viewList ys) = viewList (keepNonNull y ys) ∧
      ∀ t ∈ keepNonNull y ys, Top t := by
  have hy := hty
  induction hty using Top.cases with
  | null => exact ⟨rfl, htys⟩
  | _ => exact ⟨rfl, List.forall_mem_cons.mpr ⟨hy, htys⟩⟩

variable [NumOps N] in
theorem null_match_view {d : TVal N} {α} (a b : α) : Top d →
    (match view d with | .null => a | _ => b) = (match d with | .null => a | _ => b) := by
  intro h
  induction h using Top.cases with
  | _ => rfl

theorem projectLoop_rel {fT : TVal N → Res (TVal N)} {f : Val N → Res (Val N)}
    (hf : ∀ x, Top x → Rel (fT x) (f (view x))) : (xs : List (TVal N)) → (∀ x ∈ xs, Top x) →
    RelList (projectLoopT fT xs) (projectLoop f (viewList xs))
  | [], _ => ⟨rfl, nofun⟩
  | x :: rest, hx => by
    have ⟨h1, h2⟩ := List.forall_mem_cons.mp hx
    conv => congr <;> whnf  -- one turn of both loops, by computation (see the note above `evalT_rel`)
    refine (hf x h1).cases (fun y hy => ?_) (fun _ => rfl) (fun _ => rfl)
    refine (projectLoop_rel hf rest h2).cases (fun ys hys => ?_) (fun _ => rfl) (fun _ => rfl)
    exact keep_rel hy hys

theorem filterLoop_rel {cT rT : TVal N → Res (TVal N)} {c r : Val N → Res (Val N)}
    (hc : ∀ x, Top x → Rel (cT x) (c (view x))) (hr : ∀ x, Top x → Rel (rT x) (r (view x))) :
    (xs : List (TVal N)) → (∀ x ∈ xs, Top x) → RelList (filterLoopT cT rT xs) (filterLoop c r (viewList xs))
  | [], _ => ⟨rfl, nofun⟩
  | x :: rest, hx => by
    have ⟨h1, h2⟩ := List.forall_mem_cons.mp hx
    have ih := filterLoop_rel hc hr rest h2
    conv => congr <;> whnf
    refine (hc x h1).cases (fun cv hcv => ?_) (fun _ => rfl) (fun _ => rfl)
    simp only [isFalse_view hcv]
    split
    · refine (hr x h1).cases (fun y hy => ?_) (fun _ => rfl) (fun _ => rfl)
      exact ih.cases (fun ys hys => keep_rel hy hys) (fun _ => rfl) (fun _ => rfl)
    · exact ih

theorem rel_arr {rt : Res (List (TVal N))} {rv : Res (List (Val N))} : RelList rt rv →
    Rel (match rt with | .ok ys => .ok (.arr ys) | .err e => .err e | .panic p => .panic p)
      (match rv with | .ok ys => .ok (.arr ys) | .err e => .err e | .panic p => .panic p) :=
  fun h => h.cases (fun _ hts => ⟨rfl, top_arr hts⟩) (fun _ => rfl) (fun _ => rfl)

theorem rel_obj {rt : Res (List (Bytes × TVal N))} {rv : Res (List (Bytes × Val N))} : RelKVs rt rv →
    Rel (match rt with
        | .ok ps => .ok (.obj (ps.foldl (fun m kv => insertT kv.1 kv.2 m) [])) | .err e => .err e | .panic p => .panic p)
      (match rv with
        | .ok ps => .ok (.obj (ps.foldl (fun m kv => Val.insert kv.1 kv.2 m) [])) | .err e => .err e | .panic p => .panic p) :=
  fun h => h.cases (fun ps hps => have ⟨e, ht⟩ := foldl_insertT_rel ps [] hps nofun
    ⟨congrArg Val.obj e, rfl, wftVals_iff.mpr ht⟩) (fun _ => rfl) (fun _ => rfl)

variable [NumOps N]

mutual
/-- Navigational expressions whose field names `cap` leaves alone (names that
    are already capitalised: the JSON form of a struct carries its Go field names). -/
def Nav (cap : Bytes → Bytes) : Node N → Bool
  | .current | .identity | .literal _ | .index _ | .slice _ _ _ => true
  | .field k => cap k == k
  | .indexExpr l r | .sub l r | .pipe l r | .or l r | .and l r | .proj l r => Nav cap l && Nav cap r
  | .flatten e | .not e => Nav cap e
  | .filterProj l r c => Nav cap l && Nav cap r && Nav cap c
  | .msList xs => NavList cap xs
  | .msHash kvs => NavKVs cap kvs
  | _ => false
def NavList (cap : Bytes → Bytes) : List (Node N) → Bool
  | [] => true
  | x :: xs => Nav cap x && NavList cap xs
def NavKVs (cap : Bytes → Bytes) : List (Bytes × Node N) → Bool
  | [] => true
  | (_, x) :: rest => Nav cap x && NavKVs cap rest
end

/- Each case opens both evaluators by computation: `conv => congr <;> whnf` takes the two arguments of `Rel` to the first
   `match` on an outcome that is not known yet.  `simp only [evalT, eval]` would have Lean prove the unfolding equations of
   the two mutual definitions first, which is far dearer than computing them case by case.  The match is on the expression
   alone (the other arguments are taken by `fun`): with four patterns a row Lean compiles a far larger case analysis. -/
mutual
/-- **C18, navigation.**  On every well-formed typed document that is not itself a
    nil pointer, a navigational expression evaluates — success, error and result
    alike — as it does on the document's JSON form. -/
theorem evalT_rel (cap : Bytes → Bytes) (ft : List FnEntry) : (e : Node N) → Nav cap e = true → ∀ d, Top d →
    Rel (evalT cap e d) (eval ft e (view d))
  | .current | .identity => fun _ d hd => ⟨rfl, hd⟩
  | .literal v => fun _ d _ => ⟨(view_ofVal v).symm, top_ofVal v⟩
  | .field k => fun hn d hd => by
    have hk : cap k = k := beq_iff_eq.mp hn
    conv => congr <;> whnf
    induction hd using Top.cases with
    | obj kvs h =>
      simp only [view_obj, fieldT, lookup_viewKVs]
      cases hl : lookupT k kvs with
      | none => exact ⟨rfl, top_null⟩
      | some v => exact ⟨rfl, h _ (lookupT_mem hl)⟩
    | struct fs h | ptr fs h => simp only [fieldT, hk]; exact fieldOfStruct_view k h
    | _ => exact ⟨rfl, top_null⟩
  | .index i => fun _ d hd => by
    conv => congr <;> whnf
    induction hd using Top.cases with
    | arr xs h => exact indexArr_view h i
    | slice xs h =>
      rw [indexT_slice, view_slice, ← viewList_map_interfaceOf]
      exact indexArr_view (top_slice_elems h) i
    | _ => exact ⟨rfl, top_null⟩
  | .indexExpr l r | .sub l r | .pipe l r => fun hn d hd => by
    have hn := Bool.and_eq_true_iff.mp hn
    conv => congr <;> whnf
    exact (evalT_rel cap ft l hn.1 d hd).cases (fun t ht => evalT_rel cap ft r hn.2 t ht) (fun _ => rfl) (fun _ => rfl)
  | .slice a b c => fun _ d hd => by
    conv => congr <;> whnf
    induction hd using Top.cases with
    | arr xs h => exact rel_arr (slice_rel h a b c)
    | slice xs h => exact rel_arr (viewList_map_interfaceOf xs ▸ slice_rel (top_slice_elems h) a b c)
    | _ => exact ⟨rfl, top_null⟩
  | .flatten e => fun hn d hd => by
    conv => congr <;> whnf
    refine (evalT_rel cap ft e hn d hd).cases (fun t ht => ?_) (fun _ => rfl) (fun _ => rfl)
    induction ht using Top.cases with
    | arr xs h => have := view_flattenArr h; exact ⟨congrArg Val.arr this.1.symm, top_arr this.2⟩
    | slice xs h =>
      have := view_flattenArr (top_slice_elems h)
      rw [viewList_map_interfaceOf, ← flattenSlice_eq h] at this
      exact ⟨congrArg Val.arr this.1.symm, top_arr this.2⟩
    | _ => exact ⟨rfl, top_null⟩
  | .proj l r => fun hn d hd => by
    have hn := Bool.and_eq_true_iff.mp hn
    conv => congr <;> whnf
    refine (evalT_rel cap ft l hn.1 d hd).cases (fun t ht => ?_) (fun _ => rfl) (fun _ => rfl)
    have hr := projectLoop_rel (evalT_rel cap ft r hn.2)
    induction ht using Top.cases with
    | arr xs h => exact rel_arr (hr xs h)
    | slice xs h => exact rel_arr (viewList_map_interfaceOf xs ▸ hr _ (top_slice_elems h))
    | _ => exact ⟨rfl, top_null⟩
  | .filterProj l r c => fun hn d hd => by
    obtain ⟨hlr, hc⟩ := Bool.and_eq_true_iff.mp hn
    obtain ⟨hl, hr⟩ := Bool.and_eq_true_iff.mp hlr
    conv => congr <;> whnf
    refine (evalT_rel cap ft l hl d hd).cases (fun t ht => ?_) (fun _ => rfl) (fun _ => rfl)
    have hloop := filterLoop_rel (evalT_rel cap ft c hc) (evalT_rel cap ft r hr)
    induction ht using Top.cases with
    | arr xs h => exact rel_arr (hloop xs h)
    | slice xs h => exact rel_arr (viewList_map_interfaceOf xs ▸ hloop _ (top_slice_elems h))
    | _ => exact ⟨rfl, top_null⟩
  | .msList xs => fun hn d hd => by
    have ih := evalTList_rel cap ft xs hn d hd
    induction hd using Top.cases with
    | null => exact ⟨rfl, top_null⟩
    | _ => exact rel_arr ih
  | .msHash kvs => fun hn d hd => by
    have ih := evalTKVs_rel cap ft kvs hn d hd
    induction hd using Top.cases with
    | null => exact ⟨rfl, top_null⟩
    | _ => exact rel_obj ih
  | .or l r => fun hn d hd => by
    have hn := Bool.and_eq_true_iff.mp hn
    conv => congr <;> whnf
    refine (evalT_rel cap ft l hn.1 d hd).cases (fun t ht => ?_) (fun _ => rfl) (fun _ => rfl)
    simp only [isFalse_view ht]
    split
    · exact evalT_rel cap ft r hn.2 d hd
    · exact ⟨rfl, ht⟩
  | .and l r => fun hn d hd => by
    have hn := Bool.and_eq_true_iff.mp hn
    conv => congr <;> whnf
    refine (evalT_rel cap ft l hn.1 d hd).cases (fun t ht => ?_) (fun _ => rfl) (fun _ => rfl)
    simp only [isFalse_view ht]
    split
    · exact ⟨rfl, ht⟩
    · exact evalT_rel cap ft r hn.2 d hd
  | .not e => fun hn d hd => by
    conv => congr <;> whnf
    refine (evalT_rel cap ft e hn d hd).cases (fun t ht => ?_) (fun _ => rfl) (fun _ => rfl)
    simp only [isFalse_view ht]
    exact ⟨rfl, rfl, trivial⟩
  | .empty | .cmp _ _ _ | .call _ _ | .valueProj _ _ => fun hn _ _ => by cases hn
theorem evalTList_rel (cap : Bytes → Bytes) (ft : List FnEntry) : (xs : List (Node N)) → NavList cap xs = true → ∀ d, Top d →
    RelList (evalTList cap xs d) (evalList ft xs (view d))
  | [] => fun _ _ _ => ⟨rfl, nofun⟩
  | x :: rest => fun hn d hd => by
    have hn := Bool.and_eq_true_iff.mp hn
    conv => congr <;> whnf
    refine (evalT_rel cap ft x hn.1 d hd).cases (fun t ht => ?_) (fun _ => rfl) (fun _ => rfl)
    exact (evalTList_rel cap ft rest hn.2 d hd).cases
      (fun ts hts => ⟨rfl, List.forall_mem_cons.mpr ⟨ht, hts⟩⟩) (fun _ => rfl) (fun _ => rfl)
theorem evalTKVs_rel (cap : Bytes → Bytes) (ft : List FnEntry) : (kvs : List (Bytes × Node N)) → NavKVs cap kvs = true → ∀ d, Top d →
    RelKVs (evalTKVs cap kvs d) (evalKVs ft kvs (view d))
  | [] => fun _ _ _ => ⟨rfl, nofun⟩
  | (k, x) :: rest => fun hn d hd => by
    have hn := Bool.and_eq_true_iff.mp hn
    conv => congr <;> whnf
    refine (evalT_rel cap ft x hn.1 d hd).cases (fun t ht => ?_) (fun _ => rfl) (fun _ => rfl)
    exact (evalTKVs_rel cap ft rest hn.2 d hd).cases
      (fun ts hts => ⟨rfl, List.forall_mem_cons.mpr ⟨ht, hts⟩⟩) (fun _ => rfl) (fun _ => rfl)
end

end Jmes.Typed
