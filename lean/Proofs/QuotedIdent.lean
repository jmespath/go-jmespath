/-
  Proofs.QuotedIdent — a quoted identifier spelled with JSON string escaping
  is read back as the string it spells, for every well-formed UTF-8 string:
  the delimiter scan sees the marshalled body as a sequence of units, and
  `json.Unmarshal` of the body is the string (Proofs/JsonString.lean).
-/
import Proofs.JsonString
import Proofs.LexerRender
namespace Jmes.Lexer
open Jmes.Utf8 Jmes.Json

theorem hexDigit_plain : ∀ n : Fin 16, hexDigit n.val < 0x80 ∧ hexDigit n.val ≠ 0x22 ∧ hexDigit n.val ≠ 0x5C := by
  decide +kernel

/-- `U` is the scan's notion of content: `Units 0x22` for quoted identifiers, `LUnits` for literals (hence `d ≠ 0x60`
    in `esc`: the letter after a backslash is never a backtick). -/
theorem escape_units {U : Bytes → Prop} (nil : U [])
    (plain : ∀ c rest, c < 0x80 → c ≠ 0x22 → c ≠ 0x5C → U rest → U (c :: rest))
    (esc : ∀ d rest, d < 0x80 → d ≠ 0x60 → U rest → U (0x5C :: d :: rest))
    (multi : ∀ c cs, 1 < (decodeRune (c :: cs)).2 → 0x80 ≤ (decodeRune (c :: cs)).1 →
      U ((c :: cs).drop (decodeRune (c :: cs)).2) → U (c :: cs))
    {s : Bytes} (hv : ValidUtf8 s) : ∀ fuelE, s.length ≤ fuelE → U (escapeAux fuelE s) := by
  have asc {c : UInt8} {t : Bytes} (h : c < 0x80 ∧ c ≠ 0x22 ∧ c ≠ 0x5C) (ht : U t) : U (c :: t) :=
    plain c t h.1 h.2.1 h.2.2 ht
  refine escapeAux_ind (P := fun _ e => U e) nil ?_ ?_ hv
  · intro c _ e hc ih
    -- an ASCII byte is written as a two-character escape, as `\u00XX`, or as itself
    rcases esc_class c hc with h | h | h
    · rcases h with rfl | rfl | rfl | rfl | rfl | rfl | rfl <;> exact esc _ e (by decide) (by decide) ih
    · rw [escOut_u c h]
      exact esc 0x75 _ (by decide) (by decide) (asc (by decide) (asc (by decide)
        (asc (hexDigit_plain ⟨_, (nibbles c).1⟩) (asc (hexDigit_plain ⟨_, (nibbles c).2⟩) ih))))
    · obtain ⟨he, h22, _, h5c⟩ := h
      rw [he]
      exact asc ⟨hc, h22, h5c⟩ ih
  · intro c rest e hw ih
    unfold escMulti
    -- U+2028 and U+2029 are written `\u2028`, `\u2029`
    split
    · exact esc 0x75 _ (by decide) (by decide) (asc (by decide) (asc (by decide) (asc (by decide) (asc (by decide) ih))))
    · split
      · exact esc 0x75 _ (by decide) (by decide) (asc (by decide) (asc (by decide) (asc (by decide) (asc (by decide) ih))))
      · exact (multi_take hw).unit multi ih

/-- **Quoted identifiers, for every Unicode string**: `"` + JSON-escaped `s` + `"` spells the token
    (quoted identifier, `s`). -/
theorem spell_quoted (s : Bytes) (hv : ValidUtf8 s) : Spell .qident s (0x22 :: (escape s ++ [0x22])) :=
  Spell.quoted (escape s) s
    (escape_units Units.nil Units.plain (fun d rest hd _ => Units.esc d rest hd) Units.multi hv s.length (Nat.le_refl _))
    (unquote_escape s hv)

end Jmes.Lexer
