/-
  Proofs.Slice — util.go's slice machinery (Jmes.Slice, with 64-bit wrap-around and index panics) computes
  Python's slice (Spec.Slice): for 64-bit operands nothing wraps and the loops enumerate `start + k * step` for `k`
  below Python's count.  Last: `slice` is natural in the element type, hence selects elements of its input.
-/
import Jmes.Slice
import Spec.Slice
namespace Jmes.Slice
open Jmes.Spec

def InRange (x : Int) : Prop := -9223372036854775808 ≤ x ∧ x ≤ 9223372036854775807

/-- The hypothesis is `InRange x` written out, so that every use can hand it to `omega`. -/
theorem wrap64_id {x : Int} (h : -9223372036854775808 ≤ x ∧ x ≤ 9223372036854775807) : wrap64 x = x := by
  unfold wrap64; omega

theorem getIdx_some {α} (xs : List α) (i : Int) (h : 0 ≤ i ∧ i < xs.length) :
    ∃ x, getIdx xs i = some x := by
  unfold getIdx
  rw [if_neg (by omega)]
  exact ⟨xs[i.toNat]'(by omega), List.getElem?_eq_getElem _⟩

theorem range_succ_map {β} (f : Nat → β) (n : Nat) :
    (List.range (n + 1)).map f = f 0 :: (List.range n).map (fun k => f (k + 1)) := by
  rw [List.range_succ_eq_map]
  simp [List.map_map, Function.comp_def]

theorem progression_succ (i step : Int) (n : Nat) :
    (List.range (n + 1)).map (fun (k : Nat) => i + (k : Int) * step)
      = i :: (List.range n).map (fun (k : Nat) => i + step + (k : Int) * step) := by
  rw [range_succ_map]
  congr 1
  · simp
  · congr 1; funext k; rw [Int.natCast_succ, Int.add_mul, Int.one_mul]; omega

section
variable {i stop step : Int}

theorem count_up_zero (hs : 0 < step) (h : ¬ i < stop) : count i stop step = 0 := by
  unfold count; simp [hs, h]

theorem count_up_succ (hs : 0 < step) (h : i < stop) :
    count i stop step = count (i + step) stop step + 1 := by
  unfold count
  simp only [gt_iff_lt, hs, if_true, h]
  split
  · have e : stop - i - 1 = (stop - (i + step) - 1) + 1 * step := by omega
    rw [e, Int.add_mul_ediv_right _ _ (by omega : step ≠ 0)]
    have hnn : 0 ≤ (stop - (i + step) - 1) / step := Int.ediv_nonneg (by omega) (by omega)
    omega
  · -- the last index: `stop - i - 1` is below one step
    rw [Int.ediv_eq_zero_of_lt (by omega) (by omega)]; rfl

theorem count_neg (hs : step < 0) : count i stop step = count (-i) (-stop) (-step) := by
  have numerator : -stop - -i - 1 = i - stop - 1 := by omega
  unfold count
  rw [if_neg (by omega), if_pos (by omega : -step > 0), numerator]
  by_cases h : stop < i
  · rw [if_pos h, if_pos (by omega)]
  · rw [if_neg h, if_neg (by omega)]

theorem count_down_zero (hs : step < 0) (h : ¬ stop < i) : count i stop step = 0 := by
  rw [count_neg hs, count_up_zero (by omega) (by omega)]

theorem count_down_succ (hs : step < 0) (h : stop < i) :
    count i stop step = count (i + step) stop step + 1 := by
  rw [count_neg hs, count_neg hs, count_up_succ (by omega) (by omega), Int.neg_add]

end

theorem loopUp_eq {α} (xs : List α) {stop step : Int} (hs : 0 < step) (hstop : stop ≤ xs.length)
    (hlen : (xs.length : Int) ≤ 9223372036854775807) :
    ∀ (fuel : Nat) (i : Int), 0 ≤ i → stop - i ≤ fuel →
      loopUp xs stop step fuel i
        = .ok (((List.range (count i stop step)).map (fun (k : Nat) => i + (k : Int) * step)).filterMap (getIdx xs))
  | 0, i, h0, hf => by
    have : ¬ i < stop := by omega
    simp [loopUp, this, count_up_zero hs this]
  | fuel + 1, i, h0, hf => by
    unfold loopUp
    by_cases hlt : i < stop
    · obtain ⟨x, hx⟩ := getIdx_some xs i (by omega)
      -- `x` heads the result on both exits
      simp only [if_pos hlt, hx, wrap64_id (x := stop - i) (by omega), count_up_succ hs hlt, progression_succ,
        List.filterMap_cons]
      by_cases hl : step ≥ stop - i
      · simp [hl, count_up_zero hs (by omega : ¬ i + step < stop)]
      · simp only [hl, if_false, wrap64_id (x := i + step) (by omega),
          loopUp_eq xs hs hstop hlen fuel (i + step) (by omega) (by omega)]
    · simp [hlt, count_up_zero hs hlt]

/-- `loopUp_eq` with the inequalities turned.  `i + step` is computed only after the test `step ≤ stop - i` has
    failed, and then it is above `stop`: no bound on `step` is needed. -/
theorem loopDown_eq {α} (xs : List α) {stop step : Int} (hs : step < 0)
    (hstop : -1 ≤ stop) (hlen : (xs.length : Int) ≤ 9223372036854775807) :
    ∀ (fuel : Nat) (i : Int), i < xs.length → i - stop ≤ fuel →
      loopDown xs stop step fuel i
        = .ok (((List.range (count i stop step)).map (fun (k : Nat) => i + (k : Int) * step)).filterMap (getIdx xs))
  | 0, i, h0, hf => by
    have : ¬ stop < i := by omega
    simp [loopDown, this, count_down_zero hs this]
  | fuel + 1, i, h0, hf => by
    unfold loopDown
    by_cases hlt : stop < i
    · obtain ⟨x, hx⟩ := getIdx_some xs i (by omega)
      simp only [if_pos hlt, hx, wrap64_id (x := stop - i) (by omega), count_down_succ hs hlt, progression_succ,
        List.filterMap_cons]
      by_cases hl : step ≤ stop - i
      · simp [hl, count_down_zero hs (by omega : ¬ stop < i + step)]
      · simp only [hl, if_false, wrap64_id (x := i + step) (by omega),
          loopDown_eq xs hs hstop hlen fuel (i + step) (by omega) (by omega)]
    · simp [hlt, count_down_zero hs hlt]

theorem capSlice_eq_adjust {n x step : Int} (hn0 : 0 ≤ n) (hn : InRange n) (hx : InRange x) (isStart : Bool) :
    capSlice n x step = adjust n step (some x) isStart := by
  obtain ⟨_, _⟩ := hn
  obtain ⟨_, _⟩ := hx
  unfold capSlice adjust
  simp only [wrap64_id (x := n - 1) (by omega)]
  by_cases h : x < 0
  · simp only [h, if_true, wrap64_id (x := x + n) (by omega)]
    omega
  · simp only [h, if_false]
    omega

theorem computeSliceParams_eq {n : Int} {a b c : Option Int} (hn0 : 0 ≤ n) (hn : InRange n)
    (ha : ∀ x, a = some x → InRange x) (hb : ∀ x, b = some x → InRange x) (h0 : c ≠ some 0) :
    computeSliceParams n a b c
      = some (adjust n (c.getD 1) a true, adjust n (c.getD 1) b false, c.getD 1) := by
  have hw : wrap64 (n - 1) = n - 1 := wrap64_id (by have := hn.2; omega)
  have hstep : stepOf c = some (c.getD 1) := by
    cases c with
    | none => rfl
    | some k =>
      have : k ≠ 0 := fun h => h0 (by rw [h])
      simp [stepOf, this]
  unfold computeSliceParams
  rw [hstep]
  refine congrArg some (Prod.ext ?start (Prod.ext ?stop rfl))
  case start =>
    cases a with
    | none => simp [adjust, hw]
    | some x => exact capSlice_eq_adjust hn0 hn (ha x rfl) true
  case stop =>
    cases b with
    | none => simp [adjust]
    | some x => exact capSlice_eq_adjust hn0 hn (hb x rfl) false

theorem adjust_bounds (n step : Int) (v : Option Int) (isStart : Bool) (hn0 : 0 ≤ n) :
    (0 < step → 0 ≤ adjust n step v isStart ∧ adjust n step v isStart ≤ n) ∧
    (step < 0 → -1 ≤ adjust n step v isStart ∧ adjust n step v isStart < n) := by
  unfold adjust
  cases v <;> cases isStart <;> simp only [Bool.false_eq_true, if_true, if_false] <;> omega

theorem slice_eq_pySlice {α} (xs : List α) {a b c : Option Int} (hlen : InRange xs.length)
    (ha : ∀ x, a = some x → InRange x) (hb : ∀ x, b = some x → InRange x) (h0 : c ≠ some 0) :
    slice xs a b c = .ok ((pySlice xs.length a b (c.getD 1)).filterMap (getIdx xs)) := by
  have hn0 : (0 : Int) ≤ xs.length := by omega
  -- all that is used of the step: it is not 0
  have hstep : c.getD 1 ≠ 0 := by
    cases c with
    | none => decide
    | some k => exact fun h => h0 (congrArg some h)
  unfold slice
  rw [if_neg (Int.not_lt.mpr hlen.2), computeSliceParams_eq hn0 hlen ha hb h0]
  simp only
  generalize c.getD 1 = step at hstep ⊢
  have hsb := adjust_bounds xs.length step a true hn0
  have heb := adjust_bounds xs.length step b false hn0
  rcases Int.ne_iff_lt_or_gt.mp hstep with hneg | hpos
  · rw [if_neg (Int.lt_asymm hneg)]
    exact loopDown_eq xs hneg (heb.2 hneg).1 hlen.2 _ _ (hsb.2 hneg).2
      (by have := (heb.2 hneg).1; have := (hsb.2 hneg).2; omega)
  · rw [if_pos hpos]
    exact loopUp_eq xs hpos (heb.1 hpos).2 hlen.2 _ _ (hsb.1 hpos).1 (by omega)

theorem lt_count_up {stop step : Int} (hs : 0 < step) (k : Nat) (i : Int) (h : k < count i stop step) :
    i + k * step < stop := by
  unfold count at h
  rw [if_pos hs] at h
  split at h
  · -- `k ≤ (stop - i - 1) / step`, and a quotient times its divisor does not exceed the dividend
    have := Int.mul_le_mul_of_nonneg_right (by omega : (k : Int) ≤ (stop - i - 1) / step) (Int.le_of_lt hs)
    have := Int.ediv_mul_le (stop - i - 1) (Int.ne_of_gt hs)
    omega
  · omega

theorem lt_count_down {stop step : Int} (hs : step < 0) (k : Nat) (i : Int) (h : k < count i stop step) :
    stop < i + k * step := by
  have := lt_count_up (by omega : 0 < -step) k (-i) (count_neg hs ▸ h)
  rw [Int.mul_neg] at this; omega

theorem pySlice_inbounds (n : Nat) (a b : Option Int) (step : Int) (hs : step ≠ 0) :
    ∀ i ∈ pySlice n a b step, 0 ≤ i ∧ i < n := by
  intro i hi
  simp only [pySlice, List.mem_map, List.mem_range] at hi
  obtain ⟨k, hk, rfl⟩ := hi
  have hn0 : (0 : Int) ≤ n := by omega
  have hsb := adjust_bounds n step a true hn0
  have heb := adjust_bounds n step b false hn0
  rcases Int.ne_iff_lt_or_gt.mp hs with hneg | hpos
  · have := lt_count_down hneg k _ hk
    have : (k : Int) * step ≤ 0 := Int.mul_nonpos_of_nonneg_of_nonpos (by omega) (by omega)
    have := hsb.2 hneg; have := heb.2 hneg
    omega
  · have := lt_count_up hpos k _ hk
    have : 0 ≤ (k : Int) * step := Int.mul_nonneg (by omega) (by omega)
    have := hsb.1 hpos; have := heb.1 hpos
    omega

/-- For 64-bit start and stop (the step needs no bound) the slice machinery never panics and never hangs. -/
theorem slice_np {α} (xs : List α) (a b c : Option Int)
    (ha : ∀ x, a = some x → InRange x) (hb : ∀ x, b = some x → InRange x) :
    (slice xs a b c).isPanic = false := by
  by_cases hlen : (xs.length : Int) > 9223372036854775807
  · simp [slice, hlen, Res.isPanic]
  · by_cases h0 : c = some 0
    · subst h0
      simp [slice, hlen, computeSliceParams, stepOf, Res.isPanic]
    · rw [slice_eq_pySlice xs ⟨by omega, by omega⟩ ha hb h0]
      rfl

section
variable {α β} (f : α → β) (xs : List α)

theorem getIdx_map (i : Int) : getIdx (xs.map f) i = (getIdx xs i).map f := by
  unfold getIdx; split <;> simp

theorem loopUp_map (stop step : Int) : ∀ (fuel : Nat) (i : Int),
    loopUp (xs.map f) stop step fuel i = List.map f <$> loopUp xs stop step fuel i
  | 0, i => by simp only [loopUp]; split <;> rfl
  | fuel + 1, i => by
    simp only [loopUp, getIdx_map, loopUp_map stop step fuel]
    split
    · cases getIdx xs i with
      | none => rfl
      | some x =>
        simp only [Option.map]
        split
        · rfl
        · cases loopUp xs stop step fuel (wrap64 (i + step)) <;> rfl
    · rfl

theorem loopDown_map (stop step : Int) : ∀ (fuel : Nat) (i : Int),
    loopDown (xs.map f) stop step fuel i = List.map f <$> loopDown xs stop step fuel i
  | 0, i => by simp only [loopDown]; split <;> rfl
  | fuel + 1, i => by
    simp only [loopDown, getIdx_map, loopDown_map stop step fuel]
    split
    · cases getIdx xs i with
      | none => rfl
      | some x =>
        simp only [Option.map]
        split
        · rfl
        · cases loopDown xs stop step fuel (wrap64 (i + step)) <;> rfl
    · rfl

theorem slice_map (a b c : Option Int) :
    slice (xs.map f) a b c = List.map f <$> slice xs a b c := by
  unfold slice
  simp only [List.length_map]
  split
  · rfl
  · split
    · rfl
    · split
      · exact loopUp_map f xs _ _ _ _
      · exact loopDown_map f xs _ _ _ _

end

/-- By naturality: slice the elements paired with their membership proofs and forget the proofs again. -/
theorem slice_mem {α} (xs : List α) (a b c : Option Int) (r : List α) (h : slice xs a b c = .ok r) :
    ∀ y ∈ r, y ∈ xs := by
  have := slice_map Subtype.val xs.attach a b c
  rw [List.attach_map_subtype_val, h] at this
  cases hs : slice xs.attach a b c <;> rw [hs] at this <;> cases this
  exact List.forall_mem_map.mpr fun z _ => z.2

end Jmes.Slice
