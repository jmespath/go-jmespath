/-
  Proofs.LexerRoundTrip — how text is written between delimiters and read
  back: the spellings (`rawSpell` writes ' as \', `btSpell` writes ` as \`;
  both are `spell q`), the strings whose raw-string spelling is read back
  (`RawEndOK`), and the delimiter scan `consumeUntil` on content made of
  `Units`.  What the raw-string scanner makes of a spelling is in
  Proofs/RawString.lean.
-/
import Jmes.Lexer
import Proofs.Utf8
namespace Jmes.Lexer
open Jmes.Utf8

def Ascii (s : Bytes) : Prop := ∀ c ∈ s, c < 0x80

theorem ascii_append {a b : Bytes} (ha : Ascii a) (hb : Ascii b) : Ascii (a ++ b) :=
  fun x hx => (List.mem_append.mp hx).elim (ha x) (hb x)

theorem ascii_cons {c : UInt8} {a : Bytes} (hc : c < 0x80) (ha : Ascii a) : Ascii (c :: a) :=
  List.forall_mem_cons.mpr ⟨hc, ha⟩

/-- Stands before the spellings because `rawSpell` and `btSpell` below are compiled with the matcher of its
    `match cs with` (`rawBody_step.match_1`) and name it. -/
theorem rawBody_step (fuel : Nat) (c : UInt8) (cs : Bytes) (hc : c < 0x80) :
    rawBody (fuel + 1) (c :: cs) =
      if c = 0x27 then some ([], cs)
      else match cs with
        | [] => none
        | d :: ds =>
          if c = 0x5C ∧ (decodeRune (d :: ds)).1 = 0x27 then (rawBody fuel ds).map (fun r => (0x27 :: r.1, r.2))
          else (rawBody fuel (d :: ds)).map (fun r => (c :: r.1, r.2)) := by
  conv => lhs; unfold rawBody
  simp only [decode_lt80 c hc, List.drop_one, List.tail_cons, List.take_succ_cons, List.take_zero]
  by_cases hq : c = 0x27
  · subst hq; simp
  · have hne : ¬ c.toNat = 0x27 := fun h => hq (UInt8.toNat_inj.mp h)
    simp only [hne, hq, if_false]
    cases cs with
    | nil => rfl
    | cons d ds =>
      by_cases hb : c = 0x5C
      · subst hb
        by_cases hd : (decodeRune (d :: ds)).1 = 0x27 <;> simp [hd]
      · have hnb : ¬ c.toNat = 0x5C := fun h => hb (UInt8.toNat_inj.mp h)
        simp [hb, hnb]

def spell (q : UInt8) : Bytes → Bytes
  | [] => []
  | c :: cs => if c = q then 0x5C :: q :: spell q cs else c :: spell q cs

theorem spell_cons (q c : UInt8) (cs : Bytes) :
    spell q (c :: cs) = if c = q then 0x5C :: q :: spell q cs else c :: spell q cs :=
  rfl

theorem spell_cons_ne {q c : UInt8} (h : c ≠ q) (cs : Bytes) : spell q (c :: cs) = c :: spell q cs :=
  if_neg h

theorem spell_append (q : UInt8) : ∀ (a b : Bytes), spell q (a ++ b) = spell q a ++ spell q b
  | [], _ => rfl
  | c :: cs, b => by
    rw [List.cons_append, spell_cons, spell_cons, spell_append q cs b]
    split <;> rfl

theorem spell_head_ne {q : UInt8} (hq : q ≠ 0x5C) (e : UInt8) (es X : Bytes) {d : UInt8} {ds : Bytes}
    (h : spell q (e :: es) ++ X = d :: ds) : d ≠ q := by
  rw [spell_cons] at h
  split at h
  · rw [← (List.cons.inj h).1]; exact hq.symm
  · rename_i hc; rw [← (List.cons.inj h).1]; exact hc

theorem spell_nonascii {q : UInt8} (hq : q < 0x80) : ∀ (u t : Bytes), (∀ x ∈ u, ¬ x < 0x80) →
    spell q (u ++ t) = u ++ spell q t
  | [], _, _ => rfl
  | c :: u, t, h => by
    obtain ⟨hc, hu⟩ := List.forall_mem_cons.mp h
    rw [List.cons_append, spell_cons_ne (ne_of_nonascii hc hq), spell_nonascii hq u t hu]
    rfl

theorem spell_split_nonascii (q : UInt8) {a : UInt8} (ha : a < 0x80) (Z : Bytes) : ∀ (n : Nat) (cs : Bytes),
    (∀ x ∈ (spell q cs ++ a :: Z).take n, ¬ x < 0x80) →
    (spell q cs ++ a :: Z).take n = cs.take n ∧ (spell q cs ++ a :: Z).drop n = spell q (cs.drop n) ++ a :: Z
  | 0, _, _ => ⟨rfl, rfl⟩
  | n + 1, [], h => absurd ha (h a List.mem_cons_self)  -- `spell q []` computes to `[]`: the text is `a :: Z`
  | n + 1, c :: cs, h => by
    by_cases hq : c = q
    · exact absurd (by decide : (0x5C : UInt8) < 0x80) (h 0x5C (by simp [spell_cons, hq]))
    · rw [spell_cons_ne hq] at h ⊢
      simp only [List.cons_append, List.take_succ_cons, List.drop_succ_cons, List.cons.injEq, true_and] at h ⊢
      exact spell_split_nonascii q ha Z n cs (fun x hx => h x (by simp [hx]))

/-- Spelling of a raw string: every quote is preceded by a backslash. -/
def rawSpell : Bytes → Bytes
  | [] => []
  | c :: cs => if c = 0x27 then 0x5C :: 0x27 :: rawSpell cs else c :: rawSpell cs

theorem rawSpell_eq : rawSpell = spell 0x27 := by
  funext s
  induction s with
  | nil => rfl
  | cons c cs ih => rw [spell_cons, ← ih]; rfl

theorem rawSpell_len (s : Bytes) : s.length ≤ (rawSpell s).length := by
  rw [rawSpell_eq]
  induction s with
  | nil => exact Nat.le_refl 0
  | cons c cs ih => rw [spell_cons]; split <;> simp only [List.length_cons] <;> omega

theorem rawSpell_ascii : ∀ (v : Bytes), Ascii v → Ascii (rawSpell v)
  | [], _ => fun _ h => nomatch h
  | c :: cs, h => by
    obtain ⟨hc, hcs⟩ := List.forall_mem_cons.mp h
    have ih := rawSpell_ascii cs hcs
    simp only [rawSpell]
    split
    · exact ascii_cons (by decide) (ascii_cons (by decide) ih)
    · exact ascii_cons hc ih

/-- Spelling of JSON text inside a backtick literal: ` is written \`. -/
def btSpell : Bytes → Bytes
  | [] => []
  | c :: cs => if c = 0x60 then 0x5C :: 0x60 :: btSpell cs else c :: btSpell cs

theorem btSpell_eq : btSpell = spell 0x60 := by
  funext s
  induction s with
  | nil => rfl
  | cons c cs ih => rw [spell_cons, ← ih]; rfl

/-- `strings.Replace(value, "\\`", "`", -1)` undoes the spelling, for every text. -/
theorem unescapeBacktick_btSpell : ∀ x : Bytes, unescapeBacktick (btSpell x) = x
  | [] => rfl
  | c :: cs => by
    have ih := unescapeBacktick_btSpell cs
    by_cases hc : c = 0x60
    · subst hc
      simp only [btSpell, if_true, unescapeBacktick, and_self, ih]
    · simp only [btSpell, hc, if_false]
      cases cs with
      | nil => rfl
      | cons e es =>
        cases hs : btSpell (e :: es) with (rw [hs] at ih)
        | nil => cases ih
        | cons d ds =>
          have hd : d ≠ 0x60 := spell_head_ne (by decide) e es [] (by rw [← btSpell_eq, List.append_nil, hs])
          simp only [unescapeBacktick, hd, and_false, if_false, ih]

/-- A sufficient, not necessary, condition for the spelling of a string to be read back (`RawOK.toEnd`): no
    backslash directly before a quote and none at the end. -/
def RawOK : Bytes → Prop
  | [] => True
  | [c] => c ≠ 0x5C
  | c :: d :: rest => (c = 0x5C → d ≠ 0x27) ∧ RawOK (d :: rest)

theorem RawOK_drop : ∀ (n : Nat) (s : Bytes), RawOK s → RawOK (s.drop n)
  | 0, _, h => h
  | n + 1, [], _ | n + 1, [_], _ => by simp [RawOK]
  | n + 1, _ :: d :: ds, h => RawOK_drop n (d :: ds) h.2

/-- The strings whose spelling `rawSpell` the scanner reads back (Proofs/RawString.lean): those that do not end
    with a backslash (which would escape the closing quote).  A backslash
    directly before a quote is fine: `\'` is spelled `\\'`, the scanner keeps the
    first backslash (the byte after it is not a quote) and reads `\'` as the quote. -/
def RawEndOK : Bytes → Prop
  | [] => True
  | [c] => c ≠ 0x5C
  | _ :: d :: rest => RawEndOK (d :: rest)

theorem RawOK.toEnd : ∀ {s : Bytes}, RawOK s → RawEndOK s
  | [], _ => trivial
  | [_], h => h
  | _ :: d :: ds, h => RawOK.toEnd (s := d :: ds) h.2

theorem RawEndOK_iff_getLast? : ∀ (s : Bytes), RawEndOK s ↔ s.getLast? ≠ some 0x5C
  | [] | [_] => by simp [RawEndOK]
  | c :: d :: ds => by
    rw [show RawEndOK (c :: d :: ds) ↔ RawEndOK (d :: ds) from Iff.rfl, RawEndOK_iff_getLast? (d :: ds),
      List.getLast?_cons_cons]

theorem RawEndOK_of_append (u t : Bytes) (h : RawEndOK (u ++ t)) : RawEndOK t := by
  rw [RawEndOK_iff_getLast?] at h ⊢
  exact fun ht => h (by rw [List.getLast?_append, ht]; rfl)

theorem RawEndOK_append_backslash (s : Bytes) : ¬ RawEndOK (s ++ [0x5C]) := by
  rw [RawEndOK_iff_getLast?]; simp

/-- Content made of units: a plain ASCII byte other than the delimiter and the
    backslash, a backslash followed by any ASCII byte, or a well-formed multi-byte rune. -/
inductive Units (endc : UInt8) : Bytes → Prop where
  | nil : Units endc []
  | plain (c : UInt8) (rest : Bytes) : c < 0x80 → c ≠ endc → c ≠ 0x5C → Units endc rest → Units endc (c :: rest)
  | esc (d : UInt8) (rest : Bytes) : d < 0x80 → Units endc rest → Units endc (0x5C :: d :: rest)
  | multi (c : UInt8) (cs : Bytes) : 1 < (decodeRune (c :: cs)).2 → 0x80 ≤ (decodeRune (c :: cs)).1 →
      Units endc ((c :: cs).drop (decodeRune (c :: cs)).2) → Units endc (c :: cs)

theorem units_plain {endc : UInt8} : ∀ {s : Bytes}, (∀ c ∈ s, c < 0x80 ∧ c ≠ endc ∧ c ≠ 0x5C) → Units endc s
  | [], _ => .nil
  | c :: cs, h =>
    have ⟨hc, hcs⟩ := List.forall_mem_cons.mp h
    .plain c cs hc.1 hc.2.1 hc.2.2 (units_plain hcs)

theorem units_append {endc : UInt8} {a b : Bytes} (ha : Units endc a) (hb : Units endc b) : Units endc (a ++ b) := by
  induction ha with
  | nil => exact hb
  | plain c rest h1 h2 h3 _ ih => exact Units.plain c _ h1 h2 h3 ih
  | esc d rest hd _ ih => exact Units.esc d _ hd ih
  | multi c cs hw _ _ ih =>
    rw [← List.take_append_drop (decodeRune (c :: cs)).2 (c :: cs), List.append_assoc]
    exact (multi_take hw).unit Units.multi ih

theorem consumeUntil_multi {u : Bytes} {r : Nat} (hm : Multi u r) (endc : Nat) (he : endc < 0x80) (fuel : Nat) (t : Bytes) :
    consumeUntil endc (fuel + 1) (u ++ t) = (consumeUntil endc fuel t).map (fun p => (u ++ p.1, p.2)) := by
  have hd := hm.dec t
  have hge := hm.ge
  have h1 : ¬ r = endc := by omega
  have h2 : ¬ r = 0x5C := by omega
  cases u with
  | nil => exact absurd hm.len (by decide)
  | cons c tl =>
    rw [List.cons_append] at hd ⊢
    conv => lhs; unfold consumeUntil
    simp only [hd, h1, h2, if_false]
    rw [← List.cons_append, List.drop_left, List.take_left]

/-- C14 (delimiter scan): on content made of units, `consumeUntil` returns
    exactly the content and leaves what follows the closing delimiter. -/
theorem consumeUntil_units (endc : UInt8) (he : endc < 0x80) (hne : endc ≠ 0x5C) :
    ∀ (body : Bytes), Units endc body → ∀ (rest : Bytes) (fuel : Nat), body.length < fuel →
      consumeUntil endc.toNat fuel (body ++ endc :: rest) = some (body, rest) := by
  intro body hu rest
  induction hu with (intro fuel hf; obtain ⟨f, rfl⟩ := Nat.exists_eq_add_one_of_ne_zero (Nat.ne_zero_of_lt hf))
  | nil =>
    unfold consumeUntil
    simp [decode_lt80 endc he]
  | plain c tl hc hce hcb _ ih =>
    have h1 : ¬ c.toNat = endc.toNat := mt UInt8.toNat_inj.mp hce
    have h2 : ¬ c.toNat = 0x5C := fun h => hcb (UInt8.toNat_inj.mp h)
    unfold consumeUntil
    simp only [List.cons_append, decode_lt80 c hc, h1, h2, if_false,
      List.drop_one, List.tail_cons, List.take_succ_cons, List.take_zero]
    rw [ih f (by simp at hf; omega)]
    rfl
  | esc d tl hd _ ih =>
    have h1 : ¬ (0x5C : Nat) = endc.toNat := fun h => hne (UInt8.toNat_inj.mp h.symm)
    unfold consumeUntil
    simp only [List.cons_append, decode_lt80 0x5C (by decide), h1, if_false,
      show (0x5C : UInt8).toNat = 0x5C from rfl, if_true, List.drop_one, List.tail_cons,
      decode_lt80 d hd, List.take_succ_cons, List.take_zero]
    rw [ih f (by simp at hf; omega)]
    simp
  | multi c cs hw hge _ ih =>
    have hstep := consumeUntil_multi (multi_take hw) endc.toNat (UInt8.lt_iff_toNat_lt.mp he) f
      ((c :: cs).drop (decodeRune (c :: cs)).2 ++ endc :: rest)
    rw [← List.append_assoc, List.take_append_drop] at hstep
    rw [hstep, ih f (by simp only [List.length_drop, List.length_cons] at hf ⊢; omega)]
    simp only [Option.map, List.take_append_drop]

end Jmes.Lexer
