/-
  Proofs.StrOrder — `Val.bytesLt` (Go's `<` on strings) is a strict total order on byte strings
  (Proofs.BytesLt), so what Proofs.FunctionsMore says of `sort`, `sort_by`, `max`, `min`, `max_by`, `min_by`
  under such an order holds of their string branches; and arrays of strings as the handlers see them.
-/
import Proofs.FunctionsMore
import Proofs.BytesLt
namespace Jmes.StrOrder
open Jmes.Val Jmes.Fn Jmes.FnMore

theorem bytesLt_ord : StrictOrdN bytesLt := ⟨bytesLt_irrefl, bytesLt_trans, bytesLt_total⟩

/-- The order `sort` uses on strings. -/
def leStr (a b : Bytes) : Bool := !bytesLt b a

/-- The order `sort_by` uses on (string key, element) pairs. -/
def leStrKey {N : Type} (a b : Bytes × Val N) : Bool := !bytesLt b.1 a.1

variable {N : Type}

theorem allStrs_eq_map : ∀ (xs : List (Val N)) (ss : List Bytes), allStrs xs = some ss → xs = ss.map .str
  | [], ss, h => by cases h; rfl
  | x :: xs, ss, h => by
    cases x with
    | str s =>
      -- `allStrs (.str s :: xs)` computes to `(allStrs xs).map (s :: ·)`
      obtain ⟨r, hr, rfl⟩ := Option.map_eq_some_iff.mp h
      rw [allStrs_eq_map xs r hr]; rfl
    | _ => cases h

theorem allStrs_map_str : ∀ ss : List Bytes, allStrs (N := N) (ss.map .str) = some ss
  | [] => rfl
  | s :: ss => by
    show (allStrs (ss.map .str)).map (s :: ·) = _
    rw [allStrs_map_str ss]; rfl

theorem allStrs_isSome_iff (xs : List (Val N)) : (allStrs xs).isSome ↔ ∃ ss : List Bytes, xs = ss.map .str :=
  Option.isSome_iff_exists.trans ⟨.imp (allStrs_eq_map xs), fun ⟨ss, h⟩ => ⟨ss, h ▸ allStrs_map_str ss⟩⟩

theorem allNums_str_cons (s : Bytes) (xs : List (Val N)) : allNums (.str s :: xs) = none := rfl

theorem joinLoop_map_str (sep : Bytes) : ∀ ss : List Bytes, joinLoop (N := N) sep (ss.map .str) = .ok ss
  | [] => rfl
  | s :: ss => by
    -- by computation: `simp only [joinLoop]` has Lean prove the unfolding equation of `joinLoop` first
    conv => lhs; whnf
    rw [joinLoop_map_str sep ss]

end Jmes.StrOrder
