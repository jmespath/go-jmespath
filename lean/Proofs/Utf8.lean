/-
  Proofs.Utf8 — `EncodeRune` inverts `DecodeRune` on well-formed multi-byte
  sequences.  A rune of the k-byte class is `((x*64+y)*64+z)..` for its six-bit
  fields; `encodeRune` is stated on that form (`enc2`..`enc4`) with the range
  of its class (`range3`, `range4`: what the decoder's checks say of the
  fields), so that `%` and `/` appear only where a byte is split into tag and
  payload (`cont_field`, `lead_field`).  What the decoder returns is summarised
  by `decodeRune_cases` (an ASCII byte, an ill-formed byte of width 1, or a
  `Multi`); the width and "not ASCII" facts after it are read off it.
-/
import Proofs.Byte
namespace Jmes.Utf8

theorem not_surrogate {r : Nat} (h : r < 0xD800 ∨ 0xE000 ≤ r) (h' : r ≤ 0x10FFFF) :
    ((decide (0xD800 ≤ r) && decide (r ≤ 0xDFFF)) || decide (r > 0x10FFFF)) = false := by
  simp only [Bool.or_eq_false_iff, Bool.and_eq_false_iff, decide_eq_false_iff_not]; omega

theorem enc1 (r : Nat) (h : r < 0x80) : (encodeRune r).map UInt8.toNat = [r] := by
  simp only [encodeRune, h, if_true, List.map_cons, List.map_nil, Nat.toUInt8_eq, UInt8.toNat_ofNat']
  congr 1; omega

theorem enc2 (x y : Nat) (hx : 2 ≤ x) (hx' : x < 32) (hy : y < 64) :
    (encodeRune (x * 64 + y)).map UInt8.toNat = [0xC0 + x, 0x80 + y] := by
  have c1 : ¬ x * 64 + y < 0x80 := by omega
  have c2 : x * 64 + y < 0x800 := by omega
  simp only [encodeRune, c1, c2, if_false, if_true, List.map_cons, List.map_nil, shr6 x y hy,
    tag_byte 0xC0 x 5 hx' rfl (by decide), tag_byte 0x80 y 6 hy rfl (by decide)]

/-- `lo` excludes the overlong forms, `hs` the surrogates -/
theorem enc3 (x y z : Nat) (hx : x < 16) (hy : y < 64) (hz : z < 64) (lo : 0x800 ≤ (x * 64 + y) * 64 + z)
    (hs : (x * 64 + y) * 64 + z < 0xD800 ∨ 0xE000 ≤ (x * 64 + y) * 64 + z) :
    (encodeRune ((x * 64 + y) * 64 + z)).map UInt8.toNat = [0xE0 + x, 0x80 + y, 0x80 + z] := by
  have c1 : ¬ (x * 64 + y) * 64 + z < 0x80 := Nat.not_lt.mpr (Nat.le_trans (by decide) lo)
  have c2 : ¬ (x * 64 + y) * 64 + z < 0x800 := Nat.not_lt.mpr lo
  have c4 : (x * 64 + y) * 64 + z < 0x10000 := by omega
  have c3 := not_surrogate hs (Nat.le_of_lt (Nat.lt_trans c4 (by decide)))
  simp only [encodeRune, c1, c2, c3, c4, if_false, if_true, Bool.false_eq_true, List.map_cons, List.map_nil,
    Nat.shiftRight_add _ 6 6, shr6 _ z hz, shr6 x y hy,
    tag_byte 0xE0 x 4 hx rfl (by decide), tag_byte 0x80 y 6 hy rfl (by decide), tag_byte 0x80 z 6 hz rfl (by decide)]

/-- `lo` excludes the overlong forms, `hi` what lies above U+10FFFF -/
theorem enc4 (x y z w : Nat) (hy : y < 64) (hz : z < 64) (hw : w < 64) (lo : 0x10000 ≤ ((x * 64 + y) * 64 + z) * 64 + w)
    (hi : ((x * 64 + y) * 64 + z) * 64 + w ≤ 0x10FFFF) :
    (encodeRune (((x * 64 + y) * 64 + z) * 64 + w)).map UInt8.toNat = [0xF0 + x, 0x80 + y, 0x80 + z, 0x80 + w] := by
  have c1 : ¬ ((x * 64 + y) * 64 + z) * 64 + w < 0x80 := Nat.not_lt.mpr (Nat.le_trans (by decide) lo)
  have c2 : ¬ ((x * 64 + y) * 64 + z) * 64 + w < 0x800 := Nat.not_lt.mpr (Nat.le_trans (by decide) lo)
  have c3 := not_surrogate (.inr (Nat.le_trans (by decide) lo)) hi
  have c4 : ¬ ((x * 64 + y) * 64 + z) * 64 + w < 0x10000 := Nat.not_lt.mpr lo
  have hx : x < 8 := by omega
  simp only [encodeRune, c1, c2, c3, c4, if_false, Bool.false_eq_true, List.map_cons, List.map_nil,
    Nat.shiftRight_add _ 12 6, Nat.shiftRight_add _ 6 6, shr6 _ w hw, shr6 _ z hz, shr6 x y hy,
    tag_byte 0xF0 x 3 hx rfl (by decide), tag_byte 0x80 y 6 hy rfl (by decide), tag_byte 0x80 z 6 hz rfl (by decide),
    tag_byte 0x80 w 6 hw rfl (by decide)]

theorem encodeRune_ascii (c : UInt8) (hc : c < 0x80) : encodeRune c.toNat = [c] :=
  bytes_eq_of_toNat (enc1 c.toNat (UInt8.lt_iff_toNat_lt.mp hc))

theorem decode_lt80 (c : UInt8) {rest : Bytes} (h : c < 0x80) : decodeRune (c :: rest) = (c.toNat, 1) :=
  if_pos h

theorem decode_ltC2 (c : UInt8) (rest : Bytes) (h1 : ¬ c < 0x80) (h2 : c < 0xC2) : decodeRune (c :: rest) = (runeError, 1) :=
  (if_neg h1).trans (if_pos h2)

/-- `u` is a well-formed multi-byte sequence and `r` its rune: all that the scanners and codecs use
    about a rune of more than one byte.  The width is `u.length` as written, so that
    `List.take_left`, `List.drop_left` apply to `u ++ t`. -/
structure Multi (u : Bytes) (r : Nat) : Prop where
  dec : ∀ t, decodeRune (u ++ t) = (r, u.length)
  enc : encodeRune r = u
  len : 1 < u.length
  ge : 0x80 ≤ r
  hi : ∀ x ∈ u, ¬ x < 0x80

/-- `multi` has the shape of the constructor of that name of `Units` and of `LUnits`. -/
theorem Multi.unit {U : Bytes → Prop} {u t : Bytes} {r : Nat} (hm : Multi u r)
    (multi : ∀ c cs, 1 < (decodeRune (c :: cs)).2 → 0x80 ≤ (decodeRune (c :: cs)).1 →
      U ((c :: cs).drop (decodeRune (c :: cs)).2) → U (c :: cs))
    (ht : U t) : U (u ++ t) := by
  cases u with
  | nil => exact absurd hm.len (by decide)
  | cons c tl =>
    have hd : decodeRune (c :: (tl ++ t)) = _ := hm.dec t
    refine multi c (tl ++ t) (hd ▸ hm.len) (hd ▸ hm.ge) ?_
    rwa [hd, ← List.cons_append, List.drop_left]

theorem lead_field {a t m : Nat} (ht : t % m = 0) (h : t ≤ a) (h' : a < t + m) : ∃ x, x < m ∧ a = t + x ∧ a % m = x := by
  obtain ⟨x, rfl⟩ := Nat.exists_eq_add_of_le h
  have hx : x < m := Nat.lt_of_add_lt_add_left h'
  exact ⟨x, hx, rfl, by rw [Nat.add_mod, ht, Nat.zero_add, Nat.mod_mod, Nat.mod_eq_of_lt hx]⟩

theorem cont_field {b : Nat} (h : 0x80 ≤ b ∧ b ≤ 0xBF) : ∃ y, y < 64 ∧ b = 0x80 + y ∧ b % 64 = y :=
  lead_field (t := 0x80) rfl h.1 (Nat.lt_succ_of_le h.2)

/-- `hlo`, `hhi` are the decoder's test on the second byte: `hlo` excludes the overlong forms, `hhi` the surrogates
    (in `range4`, what lies above U+10FFFF) -/
theorem range3 {x y z : Nat} (hy : y < 64) (hz : z < 64) (hlo : x = 0 → 32 ≤ y) (hhi : x = 13 → y < 32) :
    0x800 ≤ (x * 64 + y) * 64 + z ∧ ((x * 64 + y) * 64 + z < 0xD800 ∨ 0xE000 ≤ (x * 64 + y) * 64 + z) :=
  ⟨by omega, by omega⟩

theorem range4 {x y z w : Nat} (hx : x ≤ 4) (hy : y < 64) (hz : z < 64) (hw : w < 64) (hlo : x = 0 → 16 ≤ y)
    (hhi : x = 4 → y < 16) :
    0x10000 ≤ ((x * 64 + y) * 64 + z) * 64 + w ∧ ((x * 64 + y) * 64 + z) * 64 + w ≤ 0x10FFFF :=
  ⟨by omega, by omega⟩

/-- `two_byte`, `three_byte`, `four_byte`: `h1`.. place the lead byte as the decoder's cascade does, `hc` is the test it
    makes on the bytes after it.  The rune is a variable with `hr`, so that `decodeRune_cases` passes `rfl`. -/
theorem two_byte {c s1 : UInt8} (h1 : ¬ c < 0x80) (h2 : ¬ c < 0xC2) (h3 : c < 0xE0) (hc : isCont s1 = true) {r : Nat}
    (hr : r = (c.toNat &&& 0x1F) <<< 6 ||| (s1.toNat &&& 0x3F)) : Multi [c, s1] r := by
  have dec (t : Bytes) : decodeRune ([c, s1] ++ t) = (r, 2) := by
    simp only [hr, List.cons_append, List.nil_append, decodeRune.eq_def, h1, h2, h3, hc, if_false, if_true]
  subst hr
  simp only [isCont, Bool.and_eq_true, decide_eq_true_eq, UInt8.le_iff_toNat_le, UInt8.lt_iff_toNat_lt,
    UInt8.reduceToNat] at h2 h3 hc
  obtain ⟨x, hx, ex, mx⟩ := lead_field (t := 0xC0) (m := 2 ^ 5) rfl (by omega) h3
  obtain ⟨y, hy, ey, my⟩ := cont_field hc
  rw [shl6_or, Nat.and_two_pow_sub_one_eq_mod _ 5, mx, my] at dec ⊢
  refine { dec, enc := bytes_eq_of_toNat ?_, len := by simp, ge := by omega, hi := ?_ }
  · rw [enc2 x y (by omega) hx hy]
    simp only [List.map_cons, List.map_nil, ex, ey]
  · simp only [List.forall_mem_cons, List.not_mem_nil, false_imp_iff, implies_true, and_true, UInt8.lt_iff_toNat_lt,
      UInt8.reduceToNat]
    omega

theorem three_byte {c s1 s2 : UInt8} (h1 : ¬ c < 0x80) (h2 : ¬ c < 0xC2) (h3 : ¬ c < 0xE0) (h4 : c < 0xF0)
    (hc : (decide ((if c = 0xE0 then (0xA0 : UInt8) else 0x80) ≤ s1) && decide (s1 ≤ (if c = 0xED then (0x9F : UInt8) else 0xBF)) &&
      isCont s2) = true) {r : Nat}
    (hr : r = (c.toNat &&& 0x0F) <<< 12 ||| (s1.toNat &&& 0x3F) <<< 6 ||| (s2.toNat &&& 0x3F)) : Multi [c, s1, s2] r := by
  have dec (t : Bytes) : decodeRune ([c, s1, s2] ++ t) = (r, 3) := by
    simp only [hr, List.cons_append, List.nil_append, decodeRune.eq_def, h1, h2, h3, h4, hc, if_false, if_true]
  subst hr
  simp only [isCont, Bool.and_eq_true, decide_eq_true_eq, UInt8.le_iff_toNat_le, UInt8.lt_iff_toNat_lt,
    apply_ite UInt8.toNat, ← UInt8.toNat_inj, UInt8.reduceToNat] at h3 h4 hc
  obtain ⟨⟨hlo, hhi⟩, hc2⟩ := hc
  have l1 : 0x80 ≤ s1.toNat ∧ (c.toNat = 0xE0 → 0xA0 ≤ s1.toNat) := by split at hlo <;> omega
  have u1 : s1.toNat ≤ 0xBF ∧ (c.toNat = 0xED → s1.toNat ≤ 0x9F) := by split at hhi <;> omega
  obtain ⟨x, hx, ex, mx⟩ := lead_field (t := 0xE0) (m := 2 ^ 4) rfl (by omega) h4
  obtain ⟨y, hy, ey, my⟩ := cont_field ⟨l1.1, u1.1⟩
  obtain ⟨z, hz, ez, mz⟩ := cont_field hc2
  rw [bits3, Nat.and_two_pow_sub_one_eq_mod _ 4, mx, my, mz] at dec ⊢
  obtain ⟨lo, hs⟩ := range3 (x := x) hy hz (by omega) (by omega)
  refine { dec, enc := bytes_eq_of_toNat ?_, len := by simp, ge := Nat.le_trans (by decide) lo, hi := ?_ }
  · rw [enc3 x y z hx hy hz lo hs]
    simp only [List.map_cons, List.map_nil, ex, ey, ez]
  · simp only [List.forall_mem_cons, List.not_mem_nil, false_imp_iff, implies_true, and_true, UInt8.lt_iff_toNat_lt,
      UInt8.reduceToNat]
    omega

theorem four_byte {c s1 s2 s3 : UInt8} (h1 : ¬ c < 0x80) (h2 : ¬ c < 0xC2) (h3 : ¬ c < 0xE0) (h4 : ¬ c < 0xF0) (h5 : c < 0xF5)
    (hc : (decide ((if c = 0xF0 then (0x90 : UInt8) else 0x80) ≤ s1) && decide (s1 ≤ (if c = 0xF4 then (0x8F : UInt8) else 0xBF)) &&
      isCont s2 && isCont s3) = true) {r : Nat}
    (hr : r = (c.toNat &&& 0x07) <<< 18 ||| (s1.toNat &&& 0x3F) <<< 12 ||| (s2.toNat &&& 0x3F) <<< 6 ||| (s3.toNat &&& 0x3F)) :
    Multi [c, s1, s2, s3] r := by
  have dec (t : Bytes) : decodeRune ([c, s1, s2, s3] ++ t) = (r, 4) := by
    simp only [hr, List.cons_append, List.nil_append, decodeRune.eq_def, h1, h2, h3, h4, h5, hc, if_false, if_true]
  subst hr
  simp only [isCont, Bool.and_eq_true, decide_eq_true_eq, UInt8.le_iff_toNat_le, UInt8.lt_iff_toNat_lt,
    apply_ite UInt8.toNat, ← UInt8.toNat_inj, UInt8.reduceToNat] at h4 h5 hc
  obtain ⟨⟨⟨hlo, hhi⟩, hc2⟩, hc3⟩ := hc
  have l1 : 0x80 ≤ s1.toNat ∧ (c.toNat = 0xF0 → 0x90 ≤ s1.toNat) := by split at hlo <;> omega
  have u1 : s1.toNat ≤ 0xBF ∧ (c.toNat = 0xF4 → s1.toNat ≤ 0x8F) := by split at hhi <;> omega
  obtain ⟨x, hx, ex, mx⟩ := lead_field (a := c.toNat) (t := 0xF0) (m := 2 ^ 3) rfl (by omega) (by omega)
  obtain ⟨y, hy, ey, my⟩ := cont_field ⟨l1.1, u1.1⟩
  obtain ⟨z, hz, ez, mz⟩ := cont_field hc2
  obtain ⟨w, hw, ew, mw⟩ := cont_field hc3
  rw [bits4, Nat.and_two_pow_sub_one_eq_mod _ 3, mx, my, mz, mw] at dec ⊢
  obtain ⟨lo, hi⟩ := range4 (x := x) (by omega) hy hz hw (by omega) (by omega)
  refine { dec, enc := bytes_eq_of_toNat ?_, len := by simp, ge := Nat.le_trans (by decide) lo, hi := ?_ }
  · rw [enc4 x y z w hy hz hw lo hi]
    simp only [List.map_cons, List.map_nil, ex, ey, ez, ew]
  · simp only [List.forall_mem_cons, List.not_mem_nil, false_imp_iff, implies_true, and_true, UInt8.lt_iff_toNat_lt,
      UInt8.reduceToNat]
    omega

theorem decodeRune_cases (c : UInt8) (rest : Bytes) :
    (c < 0x80 ∧ decodeRune (c :: rest) = (c.toNat, 1)) ∨
    (¬ c < 0x80 ∧ (decodeRune (c :: rest) = (runeError, 1) ∨
      Multi ((c :: rest).take (decodeRune (c :: rest)).2) (decodeRune (c :: rest)).1)) := by
  by_cases h1 : c < 0x80
  · exact .inl ⟨h1, decode_lt80 c h1⟩
  refine .inr ⟨h1, ?_⟩
  by_cases h2 : c < 0xC2
  · exact .inl (decode_ltC2 c rest h1 h2)
  by_cases h3 : c < 0xE0
  · cases rest with
    | nil => left; simp [decodeRune.eq_def, h1, h2, h3]
    | cons s1 r =>
      simp only [decodeRune.eq_def, h1, h2, h3, if_false, if_true]
      cases hc : isCont s1 with
      | false => exact .inl rfl
      | true => exact .inr (two_byte h1 h2 h3 hc rfl)
  by_cases h4 : c < 0xF0
  · match rest with
    | [] | [_] => left; simp [decodeRune.eq_def, h1, h2, h3, h4]
    | s1 :: s2 :: r =>
      simp only [decodeRune.eq_def, h1, h2, h3, h4, if_false, if_true]
      generalize hc : (decide (_ ≤ s1) && decide (s1 ≤ _) && isCont s2) = ok
      cases ok with
      | false => exact .inl rfl
      | true => exact .inr (three_byte h1 h2 h3 h4 hc rfl)
  by_cases h5 : c < 0xF5
  · match rest with
    | [] | [_] | [_, _] => left; simp [decodeRune.eq_def, h1, h2, h3, h4, h5]
    | s1 :: s2 :: s3 :: r =>
      simp only [decodeRune.eq_def, h1, h2, h3, h4, h5, if_false, if_true]
      generalize hc : (decide (_ ≤ s1) && decide (s1 ≤ _) && isCont s2 && isCont s3) = ok
      cases ok with
      | false => exact .inl rfl
      | true => exact .inr (four_byte h1 h2 h3 h4 h5 hc rfl)
  · left; simp [decodeRune.eq_def, h1, h2, h3, h4, h5]

theorem multi_take {c : UInt8} {cs : Bytes} (hw : 1 < (decodeRune (c :: cs)).2) :
    Multi ((c :: cs).take (decodeRune (c :: cs)).2) (decodeRune (c :: cs)).1 := by
  rcases decodeRune_cases c cs with ⟨_, h⟩ | ⟨_, h | h⟩
  · rw [h] at hw; exact absurd hw (Nat.lt_irrefl 1)
  · rw [h] at hw; exact absurd hw (Nat.lt_irrefl 1)
  · exact h

/-- **`EncodeRune` inverts `DecodeRune`** on every well-formed multi-byte
    sequence: if decoding `c :: rest` takes more than one byte, re-encoding the
    rune gives back exactly those bytes, and the rune is not ASCII. -/
theorem encode_decode (c : UInt8) (rest : Bytes) (hw : 1 < (decodeRune (c :: rest)).2) :
    encodeRune (decodeRune (c :: rest)).1 = (c :: rest).take (decodeRune (c :: rest)).2 ∧
    0x80 ≤ (decodeRune (c :: rest)).1 :=
  ⟨(multi_take hw).enc, (multi_take hw).ge⟩

theorem decodeRune_width (c : UInt8) (cs : Bytes) :
    1 ≤ (decodeRune (c :: cs)).2 ∧ (decodeRune (c :: cs)).2 ≤ (c :: cs).length := by
  rcases decodeRune_cases c cs with ⟨_, h⟩ | ⟨_, h | hm⟩
  · rw [h]; exact ⟨Nat.le_refl 1, Nat.succ_le_succ (Nat.zero_le _)⟩
  · rw [h]; exact ⟨Nat.le_refl 1, Nat.succ_le_succ (Nat.zero_le _)⟩
  · -- the width is the length of the prefix of that width, so it is no more than the length of `c :: cs`
    have hl := hm.len
    have hd := congrArg Prod.snd (hm.dec ((c :: cs).drop (decodeRune (c :: cs)).2))
    simp only [List.take_append_drop, List.length_take] at hd hl
    omega

theorem decode_ge80 (c : UInt8) (rest : Bytes) (h : ¬ c < 0x80) : 0x80 ≤ (decodeRune (c :: rest)).1 := by
  rcases decodeRune_cases c rest with ⟨h', _⟩ | ⟨_, h' | hm⟩
  · exact absurd h' h
  · rw [h']; decide
  · exact hm.ge

theorem decode_eq_ascii {d : UInt8} {ds : Bytes} {n : Nat} (hn : n < 0x80) (h : (decodeRune (d :: ds)).1 = n) :
    d.toNat = n := by
  by_cases hd : d < 0x80
  · rw [decode_lt80 d hd] at h; exact h
  · have := decode_ge80 d ds hd; omega

theorem decode_take_hi (c : UInt8) (rest : Bytes) (h : ¬ c < 0x80) :
    ∀ x ∈ (c :: rest).take (decodeRune (c :: rest)).2, ¬ x < 0x80 := by
  rcases decodeRune_cases c rest with ⟨h', _⟩ | ⟨_, h' | hm⟩
  · exact absurd h' h
  · rw [h']; intro x hx; rw [List.mem_singleton.mp hx]; exact h
  · exact hm.hi

theorem multi_not_ascii (c : UInt8) (rest : Bytes) (hw : 1 < (decodeRune (c :: rest)).2) : ¬ c < 0x80 := by
  intro h; rw [decode_lt80 c h] at hw; exact absurd hw (Nat.lt_irrefl 1)

end Jmes.Utf8
