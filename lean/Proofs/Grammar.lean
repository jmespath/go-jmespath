/-
  Proofs.Grammar — soundness of the parser w.r.t. the published grammar
  (Spec/Grammar.lean): every token list the parser accepts is a sentence of
  `G true` (the ABNF plus the one lenient production, finding D24, with the
  numbers of `[n]` and slices in the int64 range, finding D22).
  Proved by induction on the relational description `R`, which is complete
  for the fuel-based parser model (`R_complete`): every call consumes a segment
  of the token list that is a phrase of its category (`Sound`).

  Re-rooting (`reroot`): the grammar derives `a.b[0]` as `(a.b)[0]`, the parser
  reads `b[0]` first and hangs it under `a .`; a phrase read after a dot or an open
  projection is rebuilt with the prefix in front of its first atom.  `FieldInv`: the
  `(` of a call looks back for one identifier token, so expressions carry where a
  `.field` node can have come from.
-/
import Proofs.ParserComplete
import Spec.Grammar
namespace Jmes.Parser
open Jmes.Spec
variable {N : Type} [NumOps N]

structure Seg (p p1 : PState) (seg : List Token) : Prop where
  after : p.after = seg ++ p1.after
  before : p1.before = seg.reverse ++ p.before

theorem Seg.refl (p : PState) : Seg p p [] := ⟨rfl, rfl⟩

section
variable {p p1 p2 : PState} {t : Token} {rest seg : List Token}

theorem Seg.trans {a b : List Token} (h1 : Seg p p1 a) (h2 : Seg p1 p2 b) : Seg p p2 (a ++ b) :=
  ⟨by rw [h1.after, h2.after, List.append_assoc], by rw [h2.before, h1.before, List.reverse_append, List.append_assoc]⟩

theorem Seg.adv (h : p.after = t :: rest) : Seg p p.advance [t] := by
  constructor <;> simp [PState.advance, h]

theorem Seg.cons (h : p.after = t :: rest) (h1 : Seg p.advance p1 seg) : Seg p p1 (t :: seg) := by
  simpa using Seg.trans (Seg.adv h) h1

theorem Seg.snoc (h : Seg p p1 seg) (ha : p1.after = t :: rest) : Seg p p1.advance (seg ++ [t]) :=
  h.trans (.adv ha)

theorem Seg.cons₂ {a b : Token} (h : p.after = a :: b :: rest) (h1 : Seg p.advance.advance p1 seg) : Seg p p1 (a :: b :: seg) :=
  .cons h (.cons (advance_after_cons h) h1)

end

def headOK : Cat → TokType → Prop
  | .expr, ty | .elems, ty | .openExpr, ty => startTy ty = true
  | .args, ty | .arg, ty => startTy ty = true ∨ ty = .expref
  | .bracket, ty => ty = .lbracket ∨ ty = .flatten ∨ ty = .filter
  | .msList, ty => ty = .lbracket
  | .msHash, ty => ty = .lbrace
  | .call, ty => ty = .uident
  | _, _ => True

theorem G_head {l : Bool} {c : Cat} {s : List Token} (h : G N l c s) : ∃ t tl, s = t :: tl ∧ headOK c t.ty := by
  induction h with
  | ident h => exact ⟨_, _, rfl, by rcases h with h | h <;> rw [h] <;> exact rfl⟩
  | star h | current h | raw h | literal h _ | openStar h | not h _ _ | paren h _ _ _ => exact ⟨_, _, rfl, by rw [h]; exact rfl⟩
  | sub _ _ _ ih _ | bin _ _ _ ih _ | index _ _ ih _ | lenientList _ _ _ ih _ | elemsMore _ _ _ ih _ | openIdx _ _ _ ih _
  | openDotStar _ _ _ ih | argsMore _ _ _ ih _ =>
    obtain ⟨t, tl, rfl, ht⟩ := ih; exact ⟨t, _, rfl, ht⟩
  | index0 _ ih | openIdx0 _ _ ih =>
    obtain ⟨t, tl, rfl, ht⟩ := ih; exact ⟨t, _, rfl, by rcases ht with h | h | h <;> rw [h] <;> exact rfl⟩
  | list _ ih | hash _ ih | fn _ ih =>
    obtain ⟨t, tl, rfl, ht⟩ := ih; exact ⟨t, _, rfl, by rw [show t.ty = _ from ht]; exact rfl⟩
  | elemsOne _ ih | argsOne _ ih => exact ih
  | argExpr _ ih => obtain ⟨t, tl, rfl, ht⟩ := ih; exact ⟨t, _, rfl, Or.inl ht⟩
  | argRef h _ _ => exact ⟨_, _, rfl, Or.inr h⟩
  | brNumber h _ _ _ | brStar h _ _ | brSlice h _ _ _ => exact ⟨_, _, rfl, Or.inl h⟩
  | brFlatten h => exact ⟨_, _, rfl, Or.inr (Or.inl h)⟩
  | brFilter h _ _ _ => exact ⟨_, _, rfl, Or.inr (Or.inr h)⟩
  | msList h _ _ _ | msHash h _ _ _ | call0 h _ _ | callArgs h _ _ _ _ => exact ⟨_, _, rfl, h⟩
  | dotIdent _ | dotStar _ => exact ⟨_, _, rfl, trivial⟩
  | dotList _ ih | dotHash _ ih | dotFn _ ih => obtain ⟨t, tl, rfl, _⟩ := ih; exact ⟨t, _, rfl, trivial⟩
  | kvsOne _ _ _ _ | kvsMore _ _ _ _ _ _ _ => exact ⟨_, _, rfl, trivial⟩

theorem G_ne {l : Bool} {c : Cat} {s : List Token} (h : G N l c s) : s ≠ [] := by
  obtain ⟨t, ts, rfl, _⟩ := G_head h
  exact List.cons_ne_nil t ts

theorem open_expr {l : Bool} {a : List Token} (h : G N l .openExpr a) : G N l .expr a := by
  cases h with
  | openIdx ha hb _ => exact G.index ha hb
  | openIdx0 hb _ => exact G.index0 hb
  | openDotStar ha hd hs => exact G.sub ha hd (G.dotStar hs)
  | openStar hs => exact G.star hs

def DotHead (t : Token) : Prop := isIdent t ∨ t.ty = .star

def BrHead (t : Token) : Prop := t.ty = .lbracket ∨ t.ty = .filter

theorem not_dotHead_of_bracket {l : Bool} {b : List Token} {t : Token} (h : G N l .bracket b) (e : b.head? = some t) :
    ¬ DotHead t := by
  obtain ⟨t', ts, rfl, ht⟩ := G_head h
  cases e
  intro hd
  rcases ht with h | h | h <;> simp [DotHead, isIdent, h] at hd

theorem not_brHead_of_G {l : Bool} {c : Cat} {b : List Token} {t : Token} (h : G N l c b) (e : b.head? = some t)
    (hc : c = .msHash ∨ c = .call) : ¬ BrHead t := by
  obtain ⟨t', ts, rfl, ht⟩ := G_head h
  cases e
  intro hb
  rcases hc with rfl | rfl <;> simp [BrHead, show t.ty = _ from ht] at hb  -- `ht` is `t.ty = .lbrace` resp. `.uident`: `headOK` computed

/-- `pre` can be put in front of a phrase whose first token is `t`: `a .` in front of an identifier or `*`,
    an open projection in front of `[` or `[?` -/
inductive Root (N : Type) [NumOps N] (l : Bool) : List Token → Token → Prop
  | dot {a d t} : G N l .expr a → d.ty = .dot → DotHead t → Root N l (a ++ [d]) t
  | br {a t} : l = true → G N l .openExpr a → BrHead t → Root N l a t

theorem reroot_left {l : Bool} {c c' : Cat} {x y pre : List Token} {t : Token} (hx : G N l c' x) (e : (x ++ y).head? = some t)
    (ih : x.head? = some t → G N l c' (pre ++ x)) (k : ∀ z, G N l c' z → G N l c (z ++ y)) : G N l c (pre ++ (x ++ y)) := by
  obtain ⟨_, _, rfl, _⟩ := G_head hx  -- `x` is not empty: `e` speaks of its first token
  rw [← List.append_assoc]
  exact k _ (ih e)

theorem reroot {l : Bool} {c : Cat} {seg pre : List Token} {t : Token} (h : G N l c seg) (hc : c = .expr ∨ c = .openExpr)
    (e : seg.head? = some t) (hr : Root N l pre t) : G N l c (pre ++ seg) := by
  induction h with
  | sub hx hd hb ih _ => exact reroot_left hx e (ih (.inl rfl)) fun _ hz => .sub hz hd hb
  | bin hx ho hb ih _ => exact reroot_left hx e (ih (.inl rfl)) fun _ hz => .bin hz ho hb
  | index hx hb ih _ => exact reroot_left hx e (ih (.inl rfl)) fun _ hz => .index hz hb
  | lenientList hl hx hb ih _ => exact reroot_left hx e (ih (.inr rfl)) fun _ hz => .lenientList hl hz hb
  | openIdx hx hb hp ih _ => exact reroot_left hx e (ih (.inl rfl)) fun _ hz => .openIdx hz hb hp
  | openDotStar hx hd hs ih => exact reroot_left hx e (ih (.inl rfl)) fun _ hz => .openDotStar hz hd hs
  | ident hi =>
    cases e
    cases hr with
    | dot ha hd _ => rw [List.append_assoc]; exact .sub ha hd (.dotIdent hi)
    | br _ _ hb => rcases hi with h | h <;> simp [BrHead, h] at hb
  | star hs =>
    cases e
    cases hr with
    | dot ha hd _ => rw [List.append_assoc]; exact .sub ha hd (.dotStar hs)
    | br _ _ hb => simp [BrHead, hs] at hb
  | openStar hs =>
    cases e
    cases hr with
    | dot ha hd _ => rw [List.append_assoc]; exact .openDotStar ha hd hs
    | br _ _ hb => simp [BrHead, hs] at hb
  | list hb _ =>
    cases hr with
    | dot ha hd _ => rw [List.append_assoc]; exact .sub ha hd (.dotList hb)
    | br hl ha _ => exact .lenientList hl ha hb
  | hash hb _ =>
    cases hr with
    | dot ha hd _ => rw [List.append_assoc]; exact .sub ha hd (.dotHash hb)
    | br _ _ hbr => exact absurd hbr (not_brHead_of_G hb e (.inl rfl))
  | fn hb _ =>
    cases hr with
    | dot ha hd _ => rw [List.append_assoc]; exact .sub ha hd (.dotFn hb)
    | br _ _ hbr => exact absurd hbr (not_brHead_of_G hb e (.inr rfl))
  | index0 hb _ =>
    cases hr with
    | dot _ _ hdh => exact absurd hdh (not_dotHead_of_bracket hb e)
    | br _ ha _ => exact .index (open_expr ha) hb
  | openIdx0 hb hp _ =>
    cases hr with
    | dot _ _ hdh => exact absurd hdh (not_dotHead_of_bracket hb e)
    | br _ ha _ => exact .openIdx (open_expr ha) hb hp
  | current h | raw h | literal h _ | not h _ _ | paren h _ _ _ =>
    cases e
    cases hr with
    | dot _ _ hdh => simp [DotHead, isIdent, h] at hdh
    | br _ _ hb => simp [BrHead, h] at hb
  | _ => rcases hc with hc | hc <;> cases hc

theorem reroot_dot {l : Bool} {c : Cat} {seg : List Token} (h : G N l c seg) :
    (c = .expr ∨ c = .openExpr) → (∃ t ts, seg = t :: ts ∧ DotHead t) →
    ∀ a d, G N l .expr a → d.ty = .dot → G N l c (a ++ d :: seg) := by
  rintro hc ⟨t, ts, rfl, ht⟩ a d ha hd
  rw [List.append_cons]
  exact reroot h hc rfl (.dot ha hd ht)

/-- this is where the lenient production is used: the appended expression may be a multi-select list -/
theorem reroot_bracket {c : Cat} {seg : List Token} (h : G N true c seg) :
    (c = .expr ∨ c = .openExpr) → (∃ t ts, seg = t :: ts ∧ BrHead t) →
    ∀ a, G N true .openExpr a → G N true c (a ++ seg) := by
  rintro hc ⟨t, ts, rfl, ht⟩ a ha
  exact reroot h hc rfl (.br rfl ha ht)

/-- What the slice loop can still read in state (`idx` colons seen, a number in the current slot or not). -/
inductive SR : Nat → Bool → List Token → Prop
  | done {idx filled} : SR idx filled []
  | colon {idx filled c rest} : idx + 1 < 3 → c.ty = .colon → SR (idx + 1) false rest → SR idx filled (c :: rest)
  | num {idx n rest} : n.ty = .number → SR idx true rest → SR idx false (n :: rest)

theorem SR.split {idx : Nat} {filled : Bool} {s : List Token} (h : SR idx filled s) :
    ∃ a, (filled = true → a = []) ∧ OptNum a ∧
      (s = a ∨ ∃ c rest, idx + 1 < 3 ∧ c.ty = .colon ∧ SR (idx + 1) false rest ∧ s = a ++ c :: rest) := by
  induction h with
  | done => exact ⟨[], fun _ => rfl, .inl rfl, .inl rfl⟩
  | colon hi hc hr => exact ⟨[], fun _ => rfl, .inl rfl, .inr ⟨_, _, hi, hc, hr, rfl⟩⟩
  | num hn _ ih =>
    obtain ⟨a, ha, _, hs⟩ := ih
    cases ha rfl
    refine ⟨[_], nofun, .inr ⟨_, rfl, hn⟩, hs.imp ?_ ?_⟩
    · rintro rfl; rfl
    · rintro ⟨c, r, h1, h2, h3, rfl⟩; exact ⟨c, r, h1, h2, h3, rfl⟩

theorem SR.sliceG {s : List Token} (h : SR 0 false s) : OptNum s ∨ SliceG s := by
  obtain ⟨a, _, ha, rfl | ⟨c1, r1, _, hc1, h1, rfl⟩⟩ := h.split
  · exact .inl ha
  obtain ⟨b, _, hb, rfl | ⟨c2, r2, _, hc2, h2, rfl⟩⟩ := h1.split
  · exact .inr ⟨a, c1, _, ha, hc1, hb, .inl rfl⟩
  obtain ⟨c, _, hc, rfl | ⟨_, _, h3, _⟩⟩ := h2.split
  · exact .inr ⟨a, c1, b, ha, hc1, hb, .inr ⟨c2, _, hc2, hc, rfl⟩⟩
  · omega  -- no third colon: `h3 : 0 + 1 + 1 + 1 < 3`

theorem sliceLoop_inv : ∀ (fuel : Nat) (parts : List (Option Int)) (idx : Nat) (p : PState) (parts' : List (Option Int)) (p1 : PState),
    sliceLoop fuel parts idx p = .ok (parts', p1) → idx < 3 → parts.length = 3 →
    (∀ j, idx < j → parts.getD j none = none) →
    ∃ seg, Seg p p1 seg ∧ SR idx (parts.getD idx none).isSome seg ∧ NumOK seg
  | 0, _, _, _, _, _, h, _, _, _ => by simp [sliceLoop] at h
  | fuel + 1, parts, idx, p, parts', p1, h, hidx, hlen, hinv => by
    simp only [sliceLoop, Res.bind_eq_ok, cur_eq_ok] at h
    obtain ⟨_, ⟨t, rest, hafter, rfl⟩, h⟩ := h
    -- the loop's tests one at a time; a test that ends in `syntaxError` cannot have succeeded
    rcases of_ite h with ⟨_, h⟩ | ⟨_, h⟩
    · rcases of_ite h with ⟨hcol, h⟩ | ⟨_, h⟩
      · rcases of_ite h with ⟨_, h⟩ | ⟨h3, h⟩
        · exact (PState.syntaxError_ne_ok h).elim
        · obtain ⟨seg, hs, hsr, hno⟩ := sliceLoop_inv fuel parts (idx + 1) p.advance parts' p1 h (by omega) hlen
            (fun j hj => hinv j (by omega))
          rw [hinv (idx + 1) (by omega)] at hsr
          exact ⟨t :: seg, Seg.cons hafter hs, SR.colon (by omega) hcol hsr, .cons_ty hcol hno⟩
      · rcases of_ite h with ⟨hnum, h⟩ | ⟨_, h⟩
        · rcases of_ite h with ⟨_, h⟩ | ⟨hfilled, h⟩
          · exact (PState.syntaxError_ne_ok h).elim  -- the slot is filled
          · simp only [curTok_cons hafter, Res.bind_ok] at h
            split at h
            · cases h
            · rename_i n hat
              obtain ⟨seg, hs, hsr, hno⟩ := sliceLoop_inv fuel (parts.set idx (some n)) idx p.advance parts' p1 h hidx
                (by simp [hlen]) (fun j hj => by
                  rw [List.getD_eq_getElem?_getD, List.getElem?_set_ne (by omega), ← List.getD_eq_getElem?_getD]; exact hinv j hj)
              rw [List.getD_eq_getElem?_getD, List.getElem?_set_self (by omega), Option.getD_some] at hsr
              have hf : (parts.getD idx none).isSome = false := by simpa using hfilled
              rw [hf]
              exact ⟨t :: seg, Seg.cons hafter hs, SR.num hnum hsr, NumOK.cons (fun _ => by rw [hat]; rfl) hno⟩
        · exact (PState.syntaxError_ne_ok h).elim  -- anything else
    · cases h  -- `]`: the loop stops
      exact ⟨[], Seg.refl p, SR.done, NumOK.nil⟩

theorem parseIndex_inv {p p1 : PState} {right : Node N} {t0 : Token} {rest0 : List Token}
    (h : parseIndexExpression (N := N) p = .ok (right, p1)) (hafter : p.after = t0 :: rest0)
    (hnc : t0.ty = .number ∨ t0.ty = .colon) :
    ∃ body r, Seg p p1 (body ++ [r]) ∧ r.ty = .rbracket ∧
      ((∃ n, body = [n] ∧ n.ty = .number ∧ isSliceNode right = false ∧ NumOK [n]) ∨ (SliceG body ∧ NumOK body)) := by
  simp only [parseIndexExpression, cur_cons hafter, Res.bind_ok, Res.bind_eq_ok] at h
  obtain ⟨isSlice, hsl, h⟩ := h
  cases isSlice with
  | true =>
    simp only [if_true, parseSliceExpression, Res.bind_eq_ok, expect_eq_ok] at h
    obtain ⟨⟨parts, p2⟩, hloop, _, ⟨r, rest, hafter2, hr, rfl⟩, h⟩ := h
    cases h
    obtain ⟨seg, hs, hsr, hno'⟩ := sliceLoop_inv _ _ 0 p parts p2 hloop (by omega) rfl (fun j hj => by
      match j, hj with
      | 1, _ => rfl
      | 2, _ => rfl
      | j + 3, _ => rfl)
    refine ⟨seg, r, hs.snoc hafter2, hr, .inr ⟨?_, hno'⟩⟩
    rcases SR.sliceG hsr with hopt | hg
    · -- no colon was read: then the first token is `]`, or a number with `]` after it, and `isSlice` is false
      exfalso
      have ha := hs.after
      rw [hafter, hafter2] at ha
      rcases hopt with rfl | ⟨n, rfl, hn⟩
      · obtain ⟨rfl, _⟩ := List.cons.inj ha
        rcases hnc with h' | h' <;> rw [hr] at h' <;> cases h'
      · obtain ⟨rfl, rfl⟩ := List.cons.inj ha
        simp [hn, look1_cons hafter rfl, hr] at hsl
    · exact hg
  | false =>
    simp only [Bool.false_eq_true, if_false, curTok_cons hafter, Res.bind_ok] at h
    split at h
    · cases h
    · rename_i nval hat0
      simp only [Res.bind_eq_ok, expect_eq_ok] at h
      obtain ⟨_, ⟨r, rest, hafter2, hr, rfl⟩, h⟩ := h
      cases h
      have hnum : t0.ty = .number := by
        rcases hnc with h' | h'
        · exact h'
        · simp [h'] at hsl
      exact ⟨[t0], r, Seg.trans (Seg.adv hafter) (Seg.adv hafter2), hr, Or.inl ⟨t0, rfl, hnum, rfl,
        NumOK.cons (fun _ => by rw [hat0]; rfl) NumOK.nil⟩⟩

/-! The other direction, for `Proofs/Printer.lean` and `Proofs/GrammarComplete.lean`: the scanner on a slice phrase.  An optional
    number fills the slot the index points at (storing `none` leaves it empty); the fuel, one more than the tokens left, is
    not used up. -/

def OptVal (l : List Token) (v : Option Int) : Prop :=
  l = [] ∧ v = none ∨ ∃ n i, l = [n] ∧ n.ty = .number ∧ atoi n.value = some i ∧ v = some i

/-- what may follow the second part of a slice -/
def OptStep (l : List Token) (v : Option Int) : Prop :=
  l = [] ∧ v = none ∨ ∃ c2 c, l = c2 :: c ∧ c2.ty = .colon ∧ OptVal c v

theorem set_eq_self {α : Type} {l : List α} {i : Nat} {a : α} (h : l[i]? = some a) : l.set i a = l := by
  obtain ⟨hi, e⟩ := List.getElem?_eq_some_iff.mp h
  rw [← e, List.set_getElem_self]

section
variable (fuel : Nat) {parts : List (Option Int)} {idx : Nat} {t : Token} (bef rest : List Token)

theorem sliceLoop_colon (ht : t.ty = .colon) (hi : idx < 2) :
    sliceLoop (fuel + 1) parts idx ⟨bef, t :: rest⟩ = sliceLoop fuel parts (idx + 1) ⟨t :: bef, rest⟩ := by
  have : idx < 3 ∧ idx + 1 ≠ 3 := by omega
  simp [sliceLoop, PState.cur, PState.advance, bind, Res.bind, ht, this]

theorem sliceLoop_rbracket (ht : t.ty = .rbracket) :
    sliceLoop (fuel + 1) parts idx ⟨bef, t :: rest⟩ = .ok (parts, ⟨bef, t :: rest⟩) := by
  simp [sliceLoop, PState.cur, bind, Res.bind, ht]

theorem sliceLoop_opt {l : List Token} {v : Option Int} (h : OptVal l v) (hi : idx < 3) (hfree : parts[idx]? = some none) :
    sliceLoop (fuel + l.length) parts idx ⟨bef, l ++ rest⟩ = sliceLoop fuel (parts.set idx v) idx ⟨l.reverse ++ bef, rest⟩ := by
  rcases h with ⟨rfl, rfl⟩ | ⟨n, i, rfl, hn, hv, rfl⟩
  · rw [set_eq_self hfree]; rfl
  · simp [sliceLoop, PState.cur, PState.curTok, PState.advance, bind, Res.bind, hn, hv, hi, hfree]

theorem sliceLoop_end {l : List Token} {v : Option Int} (h : OptStep l v) (hfree : parts[2]? = some none) (ht : t.ty = .rbracket) :
    sliceLoop (fuel + 1 + l.length) parts 1 ⟨bef, l ++ t :: rest⟩ = .ok (parts.set 2 v, ⟨l.reverse ++ bef, t :: rest⟩) := by
  rcases h with ⟨rfl, rfl⟩ | ⟨c2, c, rfl, hc2, hc⟩
  · rw [set_eq_self hfree]; exact sliceLoop_rbracket _ _ _ ht
  · show sliceLoop (fuel + 1 + c.length + 1) parts 1 ⟨bef, c2 :: (c ++ t :: rest)⟩ = _
    rw [sliceLoop_colon _ _ _ hc2 (by omega), sliceLoop_opt _ _ _ hc (by omega) hfree, sliceLoop_rbracket _ _ _ ht,
      List.reverse_cons, List.append_assoc]
    rfl

end

omit [NumOps N] in
theorem parseIndex_of_parts {a b c : List Token} {va vb vc : Option Int} (ha : OptVal a va) (hb : OptVal b vb) (hc : OptStep c vc)
    {c1 r : Token} (h1 : c1.ty = .colon) (hr : r.ty = .rbracket) (bef rest : List Token) :
    parseIndexExpression (N := N) ⟨bef, a ++ c1 :: (b ++ (c ++ r :: rest))⟩ =
      .ok (.slice va vb vc, ⟨r :: (c.reverse ++ (b.reverse ++ c1 :: (a.reverse ++ bef))), rest⟩) := by
  -- a slice it is: the first token is the colon, or a number with the colon after it
  have hsl : parseIndexExpression (N := N) ⟨bef, a ++ c1 :: (b ++ (c ++ r :: rest))⟩ =
      parseSliceExpression ⟨bef, a ++ c1 :: (b ++ (c ++ r :: rest))⟩ := by
    rcases ha with ⟨rfl, _⟩ | ⟨n, _, rfl, hn, _, _⟩
    · simp [parseIndexExpression, PState.cur, bind, Res.bind, h1]
    · simp [parseIndexExpression, PState.cur, PState.look1, bind, Res.bind, h1, hn]
  have hfuel : (a ++ c1 :: (b ++ (c ++ r :: rest))).length + 1 = rest.length + 1 + 1 + c.length + b.length + 1 + a.length := by
    simp only [List.length_append, List.length_cons]; omega
  rw [hsl, parseSliceExpression, hfuel, sliceLoop_opt _ _ _ ha (by omega) rfl, sliceLoop_colon _ _ _ h1 (by omega),
    sliceLoop_opt _ _ _ hb (by omega) rfl, sliceLoop_end _ _ _ hc rfl hr]
  simp [PState.expect, PState.advance, bind, Res.bind, hr]

abbrev GE (s : List Token) : Prop := G N true .expr s

def FieldInv (seg : List Token) (n : Node N) : Prop :=
  ∀ name, n = .field name → (∃ t, seg = [t]) ∨ (∃ s r, seg = s ++ [r] ∧ r.ty = .rparen)

def NotField (n : Node N) : Prop := ∀ name, n ≠ .field name

omit [NumOps N] in
theorem notField {n : Node N} (h : isFieldNode n = false) : NotField n := fun _ e => by rw [e] at h; cases h

theorem nf_sub {a b : Node N} : NotField (.sub a b) := notField rfl

omit [NumOps N] in
theorem FieldInv.of_not {seg : List Token} {n : Node N} (h : NotField n) : FieldInv seg n :=
  fun name e => absurd e (h name)

def Suffix (N : Type) [NumOps N] (seg : List Token) : Prop := ∀ a, G N true .openExpr a → GE (N := N) (a ++ seg)

theorem suffix_nil : Suffix N [] := fun a h => by simpa using open_expr h

theorem sliceG_single {n : Token} (h : SliceG [n]) : n.ty = .colon := by
  obtain ⟨a, c1, b, ha, hc1, hb, hs⟩ := h
  rcases hs with e | ⟨c2, c, _, _, e⟩
  · rcases ha with rfl | ⟨m, rfl, _⟩
    · cases e; exact hc1
    · have := congrArg List.length e; simp at this
  · have := congrArg List.length e; simp at this; omega

theorem projBr_slice {l r : Token} {body : List Token} (h : SliceG body) : ProjBr (l :: body ++ [r]) := by
  intro l' n r' e hn
  obtain ⟨rfl, _⟩ := List.append_inj' (s₂ := [n]) (List.cons.inj e).2 rfl
  rw [sliceG_single h] at hn; cases hn

theorem projBr_filter {lz : Bool} {l r : Token} {e : List Token} (h : G N lz .expr e) : ProjBr (l :: e ++ [r]) := by
  intro l' n r' heq hn
  obtain ⟨t, ts, rfl, ht⟩ := G_head h
  cases ts with  -- three tokens: the condition is one token, which starts an expression, so is no number
  | nil => cases heq; exact startTy_ne ht rfl hn
  | cons y ys => have := congrArg List.length heq; simp at this

theorem projBr_star {l s r : Token} (hs : s.ty = .star) : ProjBr [l, s, r] := by
  intro l' n r' heq hn; cases heq; rw [hs] at hn; cases hn

theorem projBr_flatten {t : Token} : ProjBr [t] := by
  intro l' n r' heq; cases heq

/-- a bracket specifier `t :: seg` with what follows it, on its own (`nud`) and after an expression (`led`) -/
def BrBoth (N : Type) [NumOps N] (t : Token) (seg : List Token) : Prop :=
  GE (N := N) (t :: seg) ∧ ∀ a, GE (N := N) a → GE (N := N) (a ++ t :: seg)

/-- What a call consumed is a phrase of its category.  `.expr`, `.nud`, `.loop` carry `FieldInv` for the led of `(`
    (`call_head`); a led returns no `.field`.  `.prhs`, `.pis` return a `Suffix` (a right-hand side is appended to an OPEN
    projection), `.dot` what can be hung under any `a .`, `.filter` a `BrBoth`. -/
def Sound : Call N → Out N → Prop
  | .expr _ p, .node n p1 => ∃ seg, Seg p p1 seg ∧ GE (N := N) seg ∧ FieldInv seg n
  | .loop _ left p, .node n p1 => ∀ segL b0, p.before = segL.reverse ++ b0 → GE (N := N) segL → FieldInv segL left →
      ∃ seg, Seg p p1 seg ∧ GE (N := N) (segL ++ seg) ∧ FieldInv (segL ++ seg) n
  | .nud tok p, .node n p1 => ∃ seg, Seg p p1 seg ∧ GE (N := N) (tok :: seg) ∧ FieldInv (tok :: seg) n
  | .led ty left p, .node n p1 => ∀ t segL b0, t.ty = ty → p.before = t :: (segL.reverse ++ b0) → GE (N := N) segL → FieldInv segL left →
      ∃ seg, Seg p p1 seg ∧ GE (N := N) (segL ++ t :: seg) ∧ NotField n
  | .dot _ p, .node _ p1 => ∃ seg, Seg p p1 seg ∧ ∀ a d, GE (N := N) a → d.ty = .dot → GE (N := N) (a ++ d :: seg)
  | .msl p _, .node n p1 => ∃ e r, Seg p p1 (e ++ [r]) ∧ G N true .elems e ∧ r.ty = .rbracket ∧ NotField n
  | .msh p _, .node n p1 => ∃ e r, Seg p p1 (e ++ [r]) ∧ G N true .kvs e ∧ r.ty = .rbrace ∧ NotField n
  | .args p, .args _ p1 => ∃ seg, Seg p p1 seg ∧ G N true .args seg
  | .prhs _ p, .node _ p1 => ∃ seg, Seg p p1 seg ∧ Suffix N seg
  | .filter _ p, .node n p1 => ∃ seg, Seg p p1 seg ∧ NotField n ∧
      ∀ t, t.ty = .filter → GE (N := N) (t :: seg) ∧ ∀ a, GE (N := N) a → GE (N := N) (a ++ t :: seg)
  | .pis _ r p, .node n p1 => ∃ seg, Seg p p1 seg ∧ Suffix N seg ∧ NotField n ∧ (isSliceNode r = false → seg = [])
  | _, _ => True

theorem head_of_seg {l : Bool} {c : Cat} {p p1 : PState} {seg : List Token} {t : Token} {rest : List Token} (hs : Seg p p1 seg)
    (hg : G N l c seg) (hafter : p.after = t :: rest) : ∃ ts, seg = t :: ts := by
  obtain ⟨x, xs, rfl, _⟩ := G_head hg
  have := hs.after
  rw [hafter] at this
  exact ⟨xs, by rw [(List.cons.inj this).1]⟩

/-- a call that returns what another call returned: only a result with a node says anything
    (`ha`: for a `c'` other than `.args`, `Sound c'` of an argument list is `True` by computation) -/
theorem Sound.lift {c c' : Call N} {o : Out N} (f : ∀ n p1, Sound c (.node n p1) → Sound c' (.node n p1)) (h : Sound c o)
    (ha : ∀ as p1, Sound c' (.args as p1) := by exact fun _ _ => trivial) : Sound c' o := by
  cases o with
  | node n p1 => exact f n p1 h
  | args as p1 => exact ha as p1

theorem Sound.led_bin {ty : TokType} {k : Nat} {l r m : Node N} {p p1 : PState} (ho : isBinOp ty) (hm : NotField m)
    (h : Sound (.expr k p) (.node r p1)) : Sound (.led ty l p) (.node m p1) := by
  obtain ⟨seg, hs, hg', _⟩ := h
  intro t segL b0 ht _ hg _
  exact ⟨seg, hs, G.bin hg (ht ▸ ho) hg', hm⟩

theorem G_brIndex {l n r : Token} {i : Int} (hl : l.ty = .lbracket) (hn : n.ty = .number) (hr : r.ty = .rbracket)
    (hi : atoi n.value = some i) : G N true .bracket [l, n, r] :=
  .brNumber hl hn hr fun _ => .cons (fun _ => by rw [hi]; rfl) .nil

theorem BrBoth.index {t : Token} {b : List Token} (hb : G N true .bracket (t :: b)) : BrBoth N t b :=
  ⟨.index0 hb, fun _ ha => .index ha hb⟩

theorem BrBoth.proj {t : Token} {b seg : List Token} (hb : G N true .bracket (t :: b)) (hp : ProjBr (t :: b))
    (hs : Suffix N seg) : BrBoth N t (b ++ seg) :=
  ⟨hs _ (.openIdx0 hb hp), fun a ha => by
    rw [← List.cons_append, ← List.append_assoc]; exact hs _ (.openIdx ha hb hp)⟩

theorem BrBoth.of_parseIndex {p p1 p2 : PState} {l right n : Node N} {t0 : Token} {rest0 : List Token}
    (hidx : parseIndexExpression p = .ok (right, p1)) (hafter : p.after = t0 :: rest0)
    (hnc : t0.ty = .number ∨ t0.ty = .colon) (ih : Sound (.pis l right p1) (.node n p2)) :
    ∃ seg, Seg p p2 seg ∧ NotField n ∧ ∀ t, t.ty = .lbracket → BrBoth N t seg := by
  obtain ⟨seg, hs, hsuf, hn, hnil⟩ := ih
  obtain ⟨body, r, hsb, hr, hbody⟩ := parseIndex_inv hidx hafter hnc
  refine ⟨(body ++ [r]) ++ seg, hsb.trans hs, hn, fun t ht => ?_⟩
  rcases hbody with ⟨nn, rfl, hnn, hns, hno⟩ | ⟨hsl, hno⟩
  · rw [hnil hns, List.append_nil]
    exact .index (.brNumber ht hnn hr fun _ => hno)
  · exact .proj (.brSlice ht hsl hr fun _ => hno) (projBr_slice hsl) hsuf

/-- a `.field` node before `(` is one identifier token: a parenthesised expression ends in `)` -/
theorem call_head {lp prev t : Token} {more segL b0 : List Token} (hb : lp :: prev :: more = t :: (segL.reverse ++ b0))
    (hprev : prev.ty = .uident) (hf : (∃ t, segL = [t]) ∨ (∃ s r, segL = s ++ [r] ∧ r.ty = .rparen)) :
    t = lp ∧ segL = [prev] := by
  simp only [List.cons.injEq] at hb
  obtain ⟨rfl, hb⟩ := hb
  rcases hf with ⟨t0, rfl⟩ | ⟨s, r, rfl, hr⟩
  · simp at hb
    exact ⟨rfl, by rw [hb.1]⟩
  · simp at hb
    rw [hb.1, hr] at hprev; cases hprev

theorem R_grammatical (tbl : ParserTable) {c : Call N} {o : Out N} (h : R tbl c o) : Sound c o := by
  induction h with
  | @expr rbp p tok rest left p1 o hafter _ _ ih1 ih2 =>
    obtain ⟨seg1, hs1, hg1, hf1⟩ := ih1
    refine ih2.lift fun n p2 ih2 => ?_
    obtain ⟨seg2, hs2, hg2, hf2⟩ := ih2 (tok :: seg1) p.before (by rw [hs1.before, advance_of_cons hafter]; simp) hg1 hf1
    exact ⟨tok :: seg1 ++ seg2, (Seg.cons hafter hs1).trans hs2, hg2, hf2⟩
  | stop _ _ =>
    intro segL b0 _ hg hf
    exact ⟨[], .refl _, by simpa using hg, by simpa using hf⟩
  | @step rbp left p t rest left' p1 o hafter _ _ _ ih1 ih2 =>
    refine ih2.lift fun n p2 ih2 => ?_
    intro segL b0 hb hg hf
    obtain ⟨seg1, hs1, hg1, hn1⟩ := ih1 t segL b0 rfl (by rw [advance_of_cons hafter, hb]) hg hf
    obtain ⟨seg2, hs2, hg2, hf2⟩ := ih2 (segL ++ t :: seg1) b0
      (by rw [hs1.before, advance_of_cons hafter, hb]; simp) hg1 (.of_not hn1)
    rw [List.append_assoc] at hg2 hf2
    exact ⟨t :: seg1 ++ seg2, (Seg.cons hafter hs1).trans hs2, hg2, hf2⟩
  | nudJson hty hdec => exact ⟨[], .refl _, .literal hty (by rw [hdec]; rfl), .of_not (notField rfl)⟩
  | nudRaw hty => exact ⟨[], .refl _, .raw hty, .of_not (notField rfl)⟩
  | nudIdent hty => exact ⟨[], .refl _, .ident (.inl hty), fun _ _ => .inl ⟨_, rfl⟩⟩
  | nudQuoted hty _ _ => exact ⟨[], .refl _, .ident (.inr hty), fun _ _ => .inl ⟨_, rfl⟩⟩
  | nudCurrent hty => exact ⟨[], .refl _, .current hty, .of_not (notField rfl)⟩
  | nudNot hty _ ih =>
    obtain ⟨seg, hs, hg, _⟩ := ih
    exact ⟨seg, hs, .not hty hg, .of_not (notField rfl)⟩
  | @nudParen tok p e p1 t rest hty _ hafter hrp ih =>
    obtain ⟨seg, hs, hg, _⟩ := ih
    exact ⟨seg ++ [t], hs.snoc hafter, .paren hty hg hrp, fun _ _ => .inr ⟨tok :: seg, t, rfl, hrp⟩⟩
  | nudIndex hty hafter hnum hrb hat =>
    exact ⟨_, .cons₂ hafter (.refl _), .index0 (G_brIndex hty hnum hrb hat), .of_not (notField rfl)⟩
  | nudList hty _ _ _ _ _ ih | nudListStar hty _ _ _ _ ih =>
    refine ih.lift ?_
    rintro n p1 ⟨e, r, hs, he, hr, hn⟩
    exact ⟨e ++ [r], hs, .list (.msList hty he hr), .of_not hn⟩
  | nudHash hty _ ih =>
    refine ih.lift ?_
    rintro n p1 ⟨e, r, hs, he, hr, hn⟩
    exact ⟨e ++ [r], hs, .hash (.msHash hty he hr), .of_not hn⟩
  | ledDot _ _ _ ih =>
    obtain ⟨seg, hs, hd⟩ := ih
    intro t' segL b0 ht' _ hg _
    exact ⟨seg, hs, hd segL t' hg ht', notField rfl⟩
  | ledPipe _ ih => exact ih.led_bin (.inl rfl) (notField rfl)
  | ledOr _ ih => exact ih.led_bin (.inr (.inl rfl)) (notField rfl)
  | ledAnd _ ih => exact ih.led_bin (.inr (.inr (.inl rfl))) (notField rfl)
  | ledCmp hop _ ih => exact ih.led_bin (.inr (.inr (.inr (by rw [hop]; rfl)))) (notField rfl)
  | ledCall0 hbef hprev hafter hrp =>
    intro t' segL b0 ht' hb hg hf
    obtain ⟨rfl, rfl⟩ := call_head (hbef ▸ hb) hprev (hf _ rfl)
    exact ⟨_, .adv hafter, .fn (.call0 hprev ht' hrp), notField rfl⟩
  | ledCall hbef hprev _ _ _ hafter1 hrp ih =>
    obtain ⟨seg, hs, ha⟩ := ih
    intro t' segL b0 ht' hb hg hf
    obtain ⟨rfl, rfl⟩ := call_head (hbef ▸ hb) hprev (hf _ rfl)
    exact ⟨_, hs.snoc hafter1, .fn (.callArgs hprev ht' ha hrp), notField rfl⟩
  | ledIndex hafter hnum hrb hat =>
    intro t segL b0 ht _ hg _
    exact ⟨_, .cons₂ hafter (.refl _), .index hg (G_brIndex ht hnum hrb hat), notField rfl⟩
  | dotIdent hafter hty _ ih =>
    refine ih.lift ?_
    rintro n p1 ⟨seg, hs, hg, _⟩
    obtain ⟨ts, rfl⟩ := head_of_seg hs hg hafter
    exact ⟨_, hs, reroot_dot hg (.inl rfl) ⟨_, ts, rfl, .inl hty.symm⟩⟩
  | dotStar hafter hty _ ih =>
    refine ih.lift ?_
    rintro n p1 ⟨seg, hs, hg, _⟩
    obtain ⟨ts, rfl⟩ := head_of_seg hs hg hafter
    exact ⟨_, hs, reroot_dot hg (.inl rfl) ⟨_, ts, rfl, .inr hty⟩⟩
  | dotList hafter hty _ ih =>
    refine ih.lift ?_
    rintro n p1 ⟨e, r, hs, he, hr, _⟩
    exact ⟨_, .cons hafter hs, fun a d ha hd => .sub ha hd (.dotList (.msList hty he hr))⟩
  | dotHash hafter hty _ ih =>
    refine ih.lift ?_
    rintro n p1 ⟨e, r, hs, he, hr, _⟩
    exact ⟨_, .cons hafter hs, fun a d ha hd => .sub ha hd (.dotHash (.msHash hty he hr))⟩
  | mslLast _ hafter hrb ih =>
    obtain ⟨seg, hs, hg, _⟩ := ih
    exact ⟨_, _, hs.snoc hafter, .elemsOne hg, hrb, notField rfl⟩
  | @mslMore p acc e p1 t rest o _ hafter hcm _ ih1 ih2 =>
    obtain ⟨seg, hs, hg, _⟩ := ih1
    refine ih2.lift ?_
    rintro n p2 ⟨e2, r, hs2, he2, hr, hn⟩
    refine ⟨seg ++ t :: e2, r, ?_, .elemsMore hg hcm he2, hr, hn⟩
    simpa [List.append_assoc] using hs.trans (.cons hafter hs2)
  | mshLast hafter hk hc _ hafter2 hrb ih =>
    obtain ⟨seg, hs, hg, _⟩ := ih
    exact ⟨_, _, (Seg.cons₂ hafter hs).snoc hafter2, .kvsOne hk hc hg, hrb, notField rfl⟩
  | @mshMore p acc k c rest0 v p2 t rest o hafter hk hc _ hafter2 hcm _ ih1 ih2 =>
    obtain ⟨seg, hs, hg, _⟩ := ih1
    refine ih2.lift ?_
    rintro n p3 ⟨e2, r, hs2, he2, hr, hn⟩
    refine ⟨k :: c :: seg ++ t :: e2, r, ?_, .kvsMore hk hc hg hcm he2, hr, hn⟩
    simpa [List.append_assoc] using (Seg.cons₂ hafter hs).trans (.cons hafter2 hs2)
  | argPlainLast _ _ _ _ _ ih =>
    obtain ⟨seg, hs, hg, _⟩ := ih
    exact ⟨seg, hs, .argsOne (.argExpr hg)⟩
  | argRefLast hafter hty _ _ _ ih =>
    obtain ⟨seg, hs, hg, _⟩ := ih
    exact ⟨_, .cons hafter hs, .argsOne (.argRef hty hg)⟩
  | argPlainMore _ _ _ hafter1 hcm _ _ _ ih1 ih2 =>
    obtain ⟨seg, hs, hg, _⟩ := ih1
    obtain ⟨seg2, hs2, ha2⟩ := ih2
    exact ⟨_, hs.trans (.cons hafter1 hs2), .argsMore (.argExpr hg) hcm ha2⟩
  | argRefMore hafter hty _ hafter1 hcm _ _ _ ih1 ih2 =>
    obtain ⟨seg, hs, hg, _⟩ := ih1
    obtain ⟨seg2, hs2, ha2⟩ := ih2
    exact ⟨_, (Seg.cons hafter hs).trans (.cons hafter1 hs2), .argsMore (.argRef hty hg) hcm ha2⟩
  | nudStarR hty _ _ => exact ⟨[], .refl _, .star hty, .of_not (notField rfl)⟩
  | nudStar hty _ _ _ ih =>
    obtain ⟨seg, hs, hsuf⟩ := ih
    exact ⟨seg, hs, hsuf _ (.openStar hty), .of_not (notField rfl)⟩
  | ledDotStar hafter hs _ ih =>
    obtain ⟨seg, hsg, hsuf⟩ := ih
    intro t' segL b0 ht' _ hg _
    refine ⟨_ :: seg, .cons hafter hsg, ?_, notField rfl⟩
    simpa [List.append_assoc] using hsuf _ (.openDotStar hg ht' hs)
  | nudFilter hty _ ih =>
    refine ih.lift ?_
    rintro n p1 ⟨seg, hs, hn, hf⟩
    exact ⟨seg, hs, (hf _ hty).1, .of_not hn⟩
  | ledFilter _ ih =>
    refine ih.lift ?_
    rintro n p1 ⟨seg, hs, hn, hf⟩
    intro t segL b0 ht _ hg _
    exact ⟨seg, hs, (hf t ht).2 segL hg, hn⟩
  | nudFlatten hty _ ih =>
    obtain ⟨seg, hs, hsuf⟩ := ih
    exact ⟨seg, hs, (BrBoth.proj (.brFlatten hty) projBr_flatten hsuf).1, .of_not (notField rfl)⟩
  | ledFlatten _ ih =>
    obtain ⟨seg, hs, hsuf⟩ := ih
    intro t segL b0 ht _ hg _
    exact ⟨seg, hs, (BrBoth.proj (.brFlatten ht) projBr_flatten hsuf).2 segL hg, notField rfl⟩
  | nudBracketIdx hty hafter hnc hidx _ ih =>
    refine ih.lift fun n p2 ih => ?_
    obtain ⟨seg, hs, hn, hb⟩ := BrBoth.of_parseIndex hidx hafter hnc ih
    exact ⟨seg, hs, (hb _ hty).1, .of_not hn⟩
  | ledBracketIdx hafter hnc hidx _ ih =>
    refine ih.lift fun n p2 ih => ?_
    obtain ⟨seg, hs, hn, hb⟩ := BrBoth.of_parseIndex hidx hafter hnc ih
    intro t segL b0 ht _ hg _
    exact ⟨seg, hs, (hb t ht).2 segL hg, hn⟩
  | nudBracketStar hty hafter hs hrb _ ih =>
    obtain ⟨seg, hsg, hsuf⟩ := ih
    exact ⟨_, .cons₂ hafter hsg, (BrBoth.proj (.brStar hty hs hrb) (projBr_star hs) hsuf).1, .of_not (notField rfl)⟩
  | ledBracketStar hafter hs hrb _ ih =>
    obtain ⟨seg, hsg, hsuf⟩ := ih
    intro t segL b0 ht _ hg _
    exact ⟨_, .cons₂ hafter hsg, (BrBoth.proj (.brStar ht hs hrb) (projBr_star hs) hsuf).2 segL hg, notField rfl⟩
  | pisSlice hsl _ ih =>
    obtain ⟨seg, hs, hsuf⟩ := ih
    exact ⟨seg, hs, hsuf, notField rfl, fun h => by rw [hsl] at h; cases h⟩
  | pisIndex _ => exact ⟨[], .refl _, suffix_nil, notField rfl, fun _ => rfl⟩
  | filterFlat _ hafter hrb _ ih =>
    obtain ⟨seg, hs, hg, _⟩ := ih
    exact ⟨_, hs.snoc hafter, notField rfl, fun tf htf => BrBoth.index (.brFilter htf hg hrb)⟩
  | filterRhs _ hafter hrb _ _ ih1 ih2 =>
    obtain ⟨seg, hs, hg, _⟩ := ih1
    obtain ⟨seg2, hs2, hsuf⟩ := ih2
    exact ⟨_, (hs.snoc hafter).trans hs2, notField rfl, fun tf htf => BrBoth.proj (.brFilter htf hg hrb) (projBr_filter hg) hsuf⟩
  | prhsId _ _ => exact ⟨[], .refl _, suffix_nil⟩
  | prhsBracket hafter _ hty _ ih =>
    refine ih.lift ?_
    rintro n p1 ⟨seg, hs, hg, _⟩
    obtain ⟨ts, rfl⟩ := head_of_seg hs hg hafter
    exact ⟨_, hs, reroot_bracket hg (.inl rfl) ⟨_, ts, rfl, hty⟩⟩
  | prhsDot hafter _ hty _ ih =>
    refine ih.lift ?_
    rintro n p1 ⟨seg, hs, hd⟩
    exact ⟨_, .cons hafter hs, fun a ha => hd a _ (open_expr ha) hty⟩

theorem last_of_append_cons {α : Type} {p : α → Prop} {a b pre : List α} {x e : α} (h : a ++ x :: b = pre ++ [e])
    (hpre : ∀ y ∈ pre, ¬ p y) (hx : p x) : a = pre ∧ b = [] := by
  induction a generalizing pre with
  | nil =>
    cases pre with
    | nil => exact ⟨rfl, (List.cons.inj h).2⟩
    | cons y ys => exact absurd ((List.cons.inj h).1 ▸ hx) (hpre y (List.mem_cons_self ..))
  | cons z zs ih =>
    cases pre with
    | nil => exact absurd (List.cons.inj h).2 (by simp)
    | cons y ys =>
      obtain ⟨r1, r2⟩ := ih (List.cons.inj h).2 fun w hw => hpre w (List.mem_cons_of_mem _ hw)
      exact ⟨by rw [(List.cons.inj h).1, r1], r2⟩

end Jmes.Parser
