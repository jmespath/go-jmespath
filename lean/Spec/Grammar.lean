/-
  Spec.Grammar — the JMESPath grammar (the ABNF of the specification) as an
  inductive predicate over token lists.  It is the ambiguous, precedence-free
  grammar exactly as published: which of its parse trees an expression denotes
  is the business of Spec/Printer.lean (C03); here only membership matters (C04).

      expression        = sub-expression / index-expression / comparator-expression
                        / or-expression / identifier / and-expression / not-expression
                        / paren-expression / "*" / multi-select-list / multi-select-hash
                        / literal / function-expression / pipe-expression / raw-string
                        / current-node
      sub-expression    = expression "." ( identifier / multi-select-list /
                                           multi-select-hash / function-expression / "*" )
      index-expression  = expression bracket-specifier / bracket-specifier
      bracket-specifier = "[" (number / "*" / slice-expression) "]" / "[]" / "[?" expression "]"
      slice-expression  = [number] ":" [number] [ ":" [number] ]
      multi-select-list = "[" expression *( "," expression ) "]"
      multi-select-hash = "{" keyval-expr *( "," keyval-expr ) "}"
      keyval-expr       = identifier ":" expression
      function-expression = unquoted-string "(" [ function-arg *( "," function-arg ) ] ")"
      function-arg      = expression / "&" expression

  Tokens are those of the lexer (`[]` and `[?` are single tokens).  A literal
  token must hold valid JSON (`Json.decode` succeeds); every other side
  condition is on token types only.

  `G false` is the published grammar.  `G true` is the language Compile ACCEPTS; it differs in two
  marked places, both recorded findings:

  * (D24) one more production,
        open-projection "[" expression *( "," expression ) "]"
    where an open-projection is an expression that ENDS in a projection with nothing after it
    yet — `e[*]`, `e[]`, `e[a:b:c]`, `e[?c]` (with or without `e`), `e.*`, `*` — e.g. `a[*][b, c]`:
    the parser reads the list as the projection's right-hand side;
  * (D22) the numbers inside `[n]` and slices must be in the int64 range (`NumOK`: the parser
    converts them with `strconv.Atoi`); the published grammar has no bound.

  Soundness and completeness are both proved for `G true`
  (`Props.C04_accepts_iff`), and `G false` with in-range numbers is contained in it
  (`Props.C04_published_sub_accepted`), hence accepted (`Props.C04_grammatical_is_accepted`).
-/
import Jmes.Ast
import Jmes.Json
import Jmes.Parser
namespace Jmes.Spec
open Jmes

inductive Cat where
  | expr | dotRhs | bracket | msList | msHash | call | elems | kvs | args | arg | openExpr
  deriving DecidableEq

def isIdent (t : Token) : Prop := t.ty = .uident ∨ t.ty = .qident

def isBinOp (ty : TokType) : Prop :=
  ty = .pipe ∨ ty = .or ∨ ty = .and ∨ (Cmp.ofTok ty).isSome

def OptNum (l : List Token) : Prop := l = [] ∨ ∃ n, l = [n] ∧ n.ty = .number

/-- slice-expression = [number] ":" [number] [ ":" [number] ] -/
def SliceG (s : List Token) : Prop :=
  ∃ a c1 b, OptNum a ∧ c1.ty = .colon ∧ OptNum b ∧
    (s = a ++ c1 :: b ∨ ∃ c2 c, c2.ty = .colon ∧ OptNum c ∧ s = a ++ c1 :: (b ++ c2 :: c))

/-- every number token is in the int64 range (`strconv.Atoi` in the parser; finding D22) -/
def NumOK (s : List Token) : Prop := ∀ t ∈ s, t.ty = .number → (Parser.atoi t.value).isSome

theorem NumOK.left {a b : List Token} (h : NumOK (a ++ b)) : NumOK a := fun t ht => h t (List.mem_append_left _ ht)
theorem NumOK.right {a b : List Token} (h : NumOK (a ++ b)) : NumOK b := fun t ht => h t (List.mem_append_right _ ht)
theorem NumOK.head {a : Token} {b : List Token} (h : NumOK (a :: b)) (hn : a.ty = .number) : (Parser.atoi a.value).isSome :=
  h a (List.mem_cons_self ..) hn
theorem NumOK.nil : NumOK [] := fun _ h => by cases h

section
variable {a : Token} {b : List Token}

theorem NumOK.tail (h : NumOK (a :: b)) : NumOK b := fun t ht => h t (List.mem_cons_of_mem _ ht)
theorem NumOK.cons (ha : a.ty = .number → (Parser.atoi a.value).isSome) (hb : NumOK b) : NumOK (a :: b) := by
  intro t ht hn
  rcases List.mem_cons.mp ht with rfl | h
  · exact ha hn
  · exact hb t h hn
theorem NumOK.cons_ne (ha : a.ty ≠ .number) (hb : NumOK b) : NumOK (a :: b) :=
  NumOK.cons (fun h => absurd h ha) hb
/-- `hne` is decided from the type `ha` names -/
theorem NumOK.cons_ty {ty : TokType} (ha : a.ty = ty) (hb : NumOK b) (hne : ty ≠ .number := by decide) : NumOK (a :: b) :=
  NumOK.cons_ne (ha ▸ hne) hb

end

theorem NumOK.append {a b : List Token} (ha : NumOK a) (hb : NumOK b) : NumOK (a ++ b) := by
  intro t ht hn
  rcases List.mem_append.mp ht with h | h
  · exact ha t h hn
  · exact hb t h hn

/-- a bracket specifier other than `[number]`: it starts a projection -/
def ProjBr (b : List Token) : Prop := ∀ l n r, b = [l, n, r] → n.ty ≠ .number

variable (N : Type) [NumOps N]

inductive G (lenient : Bool) : Cat → List Token → Prop
  -- expression
  | ident {t} : isIdent t → G lenient .expr [t]
  | star {t} : t.ty = .star → G lenient .expr [t]
  | current {t} : t.ty = .current → G lenient .expr [t]
  | raw {t} : t.ty = .stringLiteral → G lenient .expr [t]
  | literal {t} : t.ty = .jsonLiteral → (Json.decode t.value : Option (Val N)).isSome → G lenient .expr [t]
  | sub {a d b} : G lenient .expr a → d.ty = .dot → G lenient .dotRhs b → G lenient .expr (a ++ d :: b)
  | bin {a o b} : G lenient .expr a → isBinOp o.ty → G lenient .expr b → G lenient .expr (a ++ o :: b)
  | not {t a} : t.ty = .not → G lenient .expr a → G lenient .expr (t :: a)
  | paren {l a r} : l.ty = .lparen → G lenient .expr a → r.ty = .rparen → G lenient .expr (l :: a ++ [r])
  | index {a b} : G lenient .expr a → G lenient .bracket b → G lenient .expr (a ++ b)
  | index0 {b} : G lenient .bracket b → G lenient .expr b
  | list {b} : G lenient .msList b → G lenient .expr b
  | hash {b} : G lenient .msHash b → G lenient .expr b
  | fn {b} : G lenient .call b → G lenient .expr b
  | lenientList {a b} : lenient = true → G lenient .openExpr a → G lenient .msList b → G lenient .expr (a ++ b)
  -- an expression whose last construct is a projection with nothing after it yet: `e[*]`, `e[]`,
  -- `e[a:b]`, `e[?c]`, the same without `e`, `e.*`, `*`  (only the lenient production consumes it)
  | openIdx {a b} : G lenient .expr a → G lenient .bracket b → ProjBr b → G lenient .openExpr (a ++ b)
  | openIdx0 {b} : G lenient .bracket b → ProjBr b → G lenient .openExpr b
  | openDotStar {a d s} : G lenient .expr a → d.ty = .dot → s.ty = .star → G lenient .openExpr (a ++ [d, s])
  | openStar {s} : s.ty = .star → G lenient .openExpr [s]
  -- the right-hand side of a dot
  | dotIdent {t} : isIdent t → G lenient .dotRhs [t]
  | dotStar {t} : t.ty = .star → G lenient .dotRhs [t]
  | dotList {b} : G lenient .msList b → G lenient .dotRhs b
  | dotHash {b} : G lenient .msHash b → G lenient .dotRhs b
  | dotFn {b} : G lenient .call b → G lenient .dotRhs b
  -- bracket-specifier
  | brNumber {l n r} : l.ty = .lbracket → n.ty = .number → r.ty = .rbracket → (lenient = true → NumOK [n]) →
      G lenient .bracket [l, n, r]
  | brStar {l s r} : l.ty = .lbracket → s.ty = .star → r.ty = .rbracket → G lenient .bracket [l, s, r]
  | brSlice {l s r} : l.ty = .lbracket → SliceG s → r.ty = .rbracket → (lenient = true → NumOK s) →
      G lenient .bracket (l :: s ++ [r])
  | brFlatten {t} : t.ty = .flatten → G lenient .bracket [t]
  | brFilter {l e r} : l.ty = .filter → G lenient .expr e → r.ty = .rbracket → G lenient .bracket (l :: e ++ [r])
  -- multi-select list / hash, function call
  | msList {l e r} : l.ty = .lbracket → G lenient .elems e → r.ty = .rbracket → G lenient .msList (l :: e ++ [r])
  | elemsOne {a} : G lenient .expr a → G lenient .elems a
  | elemsMore {a c b} : G lenient .expr a → c.ty = .comma → G lenient .elems b → G lenient .elems (a ++ c :: b)
  | msHash {l e r} : l.ty = .lbrace → G lenient .kvs e → r.ty = .rbrace → G lenient .msHash (l :: e ++ [r])
  | kvsOne {k c a} : isIdent k → c.ty = .colon → G lenient .expr a → G lenient .kvs (k :: c :: a)
  | kvsMore {k c a m b} : isIdent k → c.ty = .colon → G lenient .expr a → m.ty = .comma → G lenient .kvs b →
      G lenient .kvs (k :: c :: a ++ m :: b)
  | call0 {f l r} : f.ty = .uident → l.ty = .lparen → r.ty = .rparen → G lenient .call [f, l, r]
  | callArgs {f l a r} : f.ty = .uident → l.ty = .lparen → G lenient .args a → r.ty = .rparen → G lenient .call (f :: l :: a ++ [r])
  | argsOne {a} : G lenient .arg a → G lenient .args a
  | argsMore {a c b} : G lenient .arg a → c.ty = .comma → G lenient .args b → G lenient .args (a ++ c :: b)
  | argExpr {a} : G lenient .expr a → G lenient .arg a
  | argRef {t a} : t.ty = .expref → G lenient .expr a → G lenient .arg (t :: a)

/-- A sentence: an expression followed by the end-of-input token. -/
def Sentence (lenient : Bool) (toks : List Token) : Prop :=
  ∃ s e, toks = s ++ [e] ∧ e.ty = .eof ∧ G N lenient .expr s

end Jmes.Spec

namespace Jmes.Parser

/-- Token types an expression can begin with. -/
def startTy : TokType → Bool
  | .uident | .qident | .stringLiteral | .jsonLiteral | .current | .lbracket | .not | .lparen | .lbrace
  | .star | .flatten | .filter => true
  | _ => false

theorem startTy_ne {ty ty' : TokType} (h : startTy ty = true) (hne : startTy ty' = false) : ty ≠ ty' :=
  fun e => by rw [e, hne] at h; cases h

end Jmes.Parser
