/-
  Jmes.Parser — model of parser.go (Pratt parser).  The cursor
  `(tokens, index)` is a zipper: `before` = consumed tokens, most recent first;
  `after` = tokens[index:].  Reading `tokens[index+k]` beyond the end is a
  panic (Go: index out of range).  The mutually recursive functions carry an
  explicit fuel; `Proofs/ParserSafe.lean` shows the fuel given by `parseTokens`
  always suffices.
-/
import Jmes.Ast
import Jmes.Lexer
import Jmes.Json
namespace Jmes
namespace Parser
variable {N : Type}

structure PState where
  before : List Token
  after : List Token
  deriving Repr

def oob {α} : Res α := .panic "parser.go: token index out of range"

def PState.curTok (p : PState) : Res Token :=
  match p.after with
  | t :: _ => .ok t
  | [] => oob

def PState.cur (p : PState) : Res TokType :=
  match p.after with
  | t :: _ => .ok t.ty
  | [] => oob

def PState.look1 (p : PState) : Res TokType :=
  match p.after with
  | _ :: t :: _ => .ok t.ty
  | _ => oob

def PState.advance (p : PState) : PState :=
  match p.after with
  | t :: r => ⟨t :: p.before, r⟩
  | [] => p

/-- `p.syntaxError(..)`: offset of the current token. -/
def PState.syntaxError {α} (p : PState) : Res α :=
  match p.after with
  | t :: _ => .err (.syntax t.pos)
  | [] => oob

/-- `p.match(tokenType)`. -/
def PState.expect (p : PState) (ty : TokType) : Res PState :=
  match p.after with
  | t :: _ => if t.ty = ty then .ok p.advance else .err (.syntax t.pos)
  | [] => oob

def minInt64 : Int := -9223372036854775808
def maxInt64 : Int := 9223372036854775807

/-- Sign and digits of an integer literal, unbounded. -/
def signedDigits (s : Bytes) : Option Int :=
  match s with
  | 0x2D :: r => (digitsToNat? r).map (fun n => - (n : Int))
  | 0x2B :: r => (digitsToNat? r).map (fun n => (n : Int))
  | _ => (digitsToNat? s).map (fun n => (n : Int))

/-- The int64 range check (`strconv.ErrRange`). -/
def clampInt64 (v : Int) : Option Int :=
  if minInt64 ≤ v ∧ v ≤ maxInt64 then some v else none

/-- `strconv.Atoi` on a 64-bit platform. -/
def atoi (s : Bytes) : Option Int := (signedDigits s).bind clampInt64

def atoiErr {α} : Res α := .err (.other "strconv.Atoi")

/-- The slice loop of parseSliceExpression. `parts` has 3 entries, `idx < 3`. -/
def sliceLoop : Nat → List (Option Int) → Nat → PState → Res (List (Option Int) × PState)
  | 0, _, _, _ => .panic "parser model: out of fuel"
  | fuel + 1, parts, idx, p => do
    let cur ← p.cur
    if cur ≠ .rbracket ∧ idx < 3 then
      if cur = .colon then
        if idx + 1 = 3 then p.syntaxError
        else sliceLoop fuel parts (idx + 1) p.advance
      else if cur = .number then
        if (parts.getD idx none).isSome then p.syntaxError
        else
          let t ← p.curTok
          match atoi t.value with
          | none => atoiErr
          | some n => sliceLoop fuel (parts.set idx (some n)) idx p.advance
      else p.syntaxError
    else .ok (parts, p)

def parseSliceExpression (p : PState) : Res (Node N × PState) := do
  let (parts, p) ← sliceLoop (p.after.length + 1) [none, none, none] 0 p
  let p ← p.expect .rbracket
  .ok (.slice (parts.getD 0 none) (parts.getD 1 none) (parts.getD 2 none), p)

def parseIndexExpression (p : PState) : Res (Node N × PState) := do
  let c0 ← p.cur
  let isSlice ← (if c0 = .colon then .ok true else do
    let c1 ← p.look1
    .ok (decide (c1 = .colon)) : Res Bool)
  if isSlice then parseSliceExpression p
  else
    let t ← p.curTok
    match atoi t.value with
    | none => atoiErr
    | some n =>
      let p ← p.advance.expect .rbracket
      .ok (.index n, p)

def isSliceNode : Node N → Bool
  | .slice _ _ _ => true
  | _ => false

def isFieldNode : Node N → Bool
  | .field _ => true
  | _ => false

def outOfFuel {α} : Res α := .panic "parser model: out of fuel"

mutual

def parseExpression [NumOps N] (tbl : ParserTable) : Nat → Nat → PState → Res (Node N × PState)
  | 0, _, _ => outOfFuel
  | fuel + 1, rbp, p => do
    let leftToken ← p.curTok
    let (left, p) ← nud tbl fuel leftToken p.advance
    ledLoop tbl fuel rbp left p

def ledLoop [NumOps N] (tbl : ParserTable) : Nat → Nat → Node N → PState → Res (Node N × PState)
  | 0, _, _, _ => outOfFuel
  | fuel + 1, rbp, left, p => do
    let cur ← p.cur
    if rbp < tbl.power cur then
      let (left', p) ← led tbl fuel cur left p.advance
      ledLoop tbl fuel rbp left' p
    else .ok (left, p)

def nud [NumOps N] (tbl : ParserTable) : Nat → Token → PState → Res (Node N × PState)
  | 0, _, _ => outOfFuel
  | fuel + 1, token, p =>
    match token.ty with
    | .jsonLiteral =>
      match (Json.decode token.value : Option (Val N)) with
      | none => .err (.other "json: literal")
      | some v => .ok (.literal v, p)
    | .stringLiteral => .ok (.literal (.str token.value), p)
    | .uident => .ok (.field token.value, p)
    | .qident => do
      let cur ← p.cur
      if cur = .lparen then .err (.syntax token.pos) else .ok (.field token.value, p)
    | .star => do
      let cur ← p.cur
      if cur = .rbracket then .ok (.valueProj .identity .identity, p)
      else
        let (right, p) ← parseProjectionRHS tbl fuel tbl.nudStar p
        .ok (.valueProj .identity right, p)
    | .filter => parseFilter tbl fuel .identity p
    | .lbrace => parseMultiSelectHash tbl fuel p []
    | .flatten => do
      let (right, p) ← parseProjectionRHS tbl fuel tbl.nudFlatten p
      .ok (.proj (.flatten .identity) right, p)
    | .lbracket => do
      let cur ← p.cur
      if cur = .number ∨ cur = .colon then
        let (right, p) ← parseIndexExpression p
        projectIfSlice tbl fuel .identity right p
      else
        let isStar ← (if cur = .star then do
          let c1 ← p.look1
          .ok (decide (c1 = .rbracket)) else .ok false : Res Bool)
        if isStar then
          let (right, p) ← parseProjectionRHS tbl fuel tbl.nudBracketStar p.advance.advance
          .ok (.proj .identity right, p)
        else parseMultiSelectList tbl fuel p []
    | .current => .ok (.current, p)
    | .not => do
      let (e, p) ← parseExpression tbl fuel tbl.nudNot p
      .ok (.not e, p)
    | .lparen => do
      let (e, p) ← parseExpression tbl fuel tbl.nudParen p
      let p ← p.expect .rparen
      .ok (e, p)
    | _ => .err (.syntax token.pos)     -- tEOF: "Incomplete expression"; others: "Invalid token"

def led [NumOps N] (tbl : ParserTable) : Nat → TokType → Node N → PState → Res (Node N × PState)
  | 0, _, _, _ => outOfFuel
  | fuel + 1, tokenType, node, p =>
    match tokenType with
    | .dot => do
      let cur ← p.cur
      if cur ≠ .star then
        let (right, p) ← parseDotRHS tbl fuel tbl.ledDotSub p
        .ok (.sub node right, p)
      else
        let (right, p) ← parseProjectionRHS tbl fuel tbl.ledDotStar p.advance
        .ok (.valueProj node right, p)
    | .pipe => do
      let (right, p) ← parseExpression tbl fuel tbl.ledPipe p
      .ok (.pipe node right, p)
    | .or => do
      let (right, p) ← parseExpression tbl fuel tbl.ledOr p
      .ok (.or node right, p)
    | .and => do
      let (right, p) ← parseExpression tbl fuel tbl.ledAnd p
      .ok (.and node right, p)
    | .lparen =>
      -- p.tokens[p.index-1] is the '(' itself, p.tokens[p.index-2] the token before it
      match node, p.before with
      | .field name, lp :: prev :: _ =>
        if prev.ty = .uident then do
          let cur ← p.cur
          let (args, p) ← (if cur = .rparen then .ok ([], p) else parseArgs tbl fuel p : Res (List (Bool × Node N) × PState))
          let p ← p.expect .rparen
          .ok (.call name args, p)
        else .err (.syntax lp.pos)
      | _, lp :: _ :: _ => .err (.syntax lp.pos)
      | _, _ => oob
    | .filter => parseFilter tbl fuel node p
    | .flatten => do
      let (right, p) ← parseProjectionRHS tbl fuel tbl.ledFlatten p
      .ok (.proj (.flatten node) right, p)
    | .lbracket => do
      let cur ← p.cur
      if cur = .number ∨ cur = .colon then
        let (right, p) ← parseIndexExpression p
        projectIfSlice tbl fuel node right p
      else
        let p ← p.expect .star
        let p ← p.expect .rbracket
        let (right, p) ← parseProjectionRHS tbl fuel tbl.ledBracketStar p
        .ok (.proj node right, p)
    | ty =>
      match Cmp.ofTok ty with
      | some op => do
        let (right, p) ← parseExpression tbl fuel ((tbl.ledCmp.lookup ty).getD 0) p
        .ok (.cmp op node right, p)
      | none => p.syntaxError          -- "Unexpected token"

/-- The argument loop of led(tLparen); entered with current ≠ ')'. -/
def parseArgs [NumOps N] (tbl : ParserTable) : Nat → PState → Res (List (Bool × Node N) × PState)
  | 0, _ => outOfFuel
  | fuel + 1, p => do
    let cur ← p.cur
    let (arg, p) ← (if cur ≠ .expref then do
        let (e, p) ← parseExpression tbl fuel tbl.ledArg p
        .ok ((false, e), p)
      else do
        let (e, p) ← parseExpression tbl fuel tbl.ledArgExpref p.advance
        .ok ((true, e), p) : Res ((Bool × Node N) × PState))
    let cur ← p.cur
    if cur = .rparen then .ok ([arg], p)
    else
      let p ← p.expect .comma
      let cur ← p.cur
      if cur = .rparen then p.syntaxError
      else
        let (rest, p) ← parseArgs tbl fuel p
        .ok (arg :: rest, p)

def projectIfSlice [NumOps N] (tbl : ParserTable) : Nat → Node N → Node N → PState → Res (Node N × PState)
  | 0, _, _, _ => outOfFuel
  | fuel + 1, left, right, p =>
    if isSliceNode right then do
      let (r, p) ← parseProjectionRHS tbl fuel tbl.sliceProj p
      .ok (.proj (.indexExpr left right) r, p)
    else .ok (.indexExpr left right, p)

def parseFilter [NumOps N] (tbl : ParserTable) : Nat → Node N → PState → Res (Node N × PState)
  | 0, _, _ => outOfFuel
  | fuel + 1, node, p => do
    let (cond, p) ← parseExpression tbl fuel tbl.filterCond p
    let p ← p.expect .rbracket
    let cur ← p.cur
    if cur = .flatten then .ok (.filterProj node .identity cond, p)
    else
      let (right, p) ← parseProjectionRHS tbl fuel tbl.filterRhs p
      .ok (.filterProj node right cond, p)

def parseDotRHS [NumOps N] (tbl : ParserTable) : Nat → Nat → PState → Res (Node N × PState)
  | 0, _, _ => outOfFuel
  | fuel + 1, bp, p => do
    let la ← p.cur
    if la = .qident ∨ la = .uident ∨ la = .star then parseExpression tbl fuel bp p
    else if la = .lbracket then parseMultiSelectList tbl fuel p.advance []
    else if la = .lbrace then parseMultiSelectHash tbl fuel p.advance []
    else p.syntaxError

def parseProjectionRHS [NumOps N] (tbl : ParserTable) : Nat → Nat → PState → Res (Node N × PState)
  | 0, _, _ => outOfFuel
  | fuel + 1, bp, p => do
    let cur ← p.cur
    if tbl.power cur < tbl.projStop then .ok (.identity, p)
    else if cur = .lbracket then parseExpression tbl fuel bp p
    else if cur = .filter then parseExpression tbl fuel bp p
    else if cur = .dot then parseDotRHS tbl fuel bp p.advance
    else p.syntaxError

/-- parseMultiSelectList; `acc` = expressions so far, in reverse. -/
def parseMultiSelectList [NumOps N] (tbl : ParserTable) : Nat → PState → List (Node N) → Res (Node N × PState)
  | 0, _, _ => outOfFuel
  | fuel + 1, p, acc => do
    let (e, p) ← parseExpression tbl fuel tbl.msList p
    let cur ← p.cur
    if cur = .rbracket then
      let p ← p.expect .rbracket
      .ok (.msList (e :: acc).reverse, p)
    else
      let p ← p.expect .comma
      parseMultiSelectList tbl fuel p (e :: acc)

/-- parseMultiSelectHash; `acc` = key-value pairs so far, in reverse. -/
def parseMultiSelectHash [NumOps N] (tbl : ParserTable) : Nat → PState → List (Bytes × Node N) → Res (Node N × PState)
  | 0, _, _ => outOfFuel
  | fuel + 1, p, acc => do
    let keyToken ← p.curTok
    if keyToken.ty = .uident ∨ keyToken.ty = .qident then
      let p ← p.advance.expect .colon
      let (v, p) ← parseExpression tbl fuel tbl.msHash p
      let cur ← p.cur
      if cur = .comma then parseMultiSelectHash tbl fuel p.advance ((keyToken.value, v) :: acc)
      else if cur = .rbrace then .ok (.msHash ((keyToken.value, v) :: acc).reverse, p.advance)
      else p.syntaxError
    else p.syntaxError

end

/-- Fuel that always suffices for `n` tokens (see `parseTokens_ok` in Proofs/ParserSafe). -/
def fuelFor (n : Nat) : Nat := 8 * n + 8

/-- `(*Parser).Parse` after tokenizing: parseExpression(0), then require tEOF. -/
def parseTokens [NumOps N] (tbl : ParserTable) (toks : List Token) : Res (Node N) := do
  let (e, p) ← parseExpression tbl (fuelFor toks.length) tbl.top ⟨[], toks⟩
  let cur ← p.cur
  if cur ≠ .eof then p.syntaxError else .ok e

/-- `(*Parser).Parse(expression)` / `Compile`, for given tables. -/
def parseWith [NumOps N] (lt : Lexer.Tables) (tbl : ParserTable) (expr : Bytes) : Res (Node N) := do
  let toks ← Lexer.tokenize lt expr
  parseTokens tbl toks

end Parser
end Jmes
