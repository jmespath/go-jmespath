/-
  Props.C05 — Compile and Search never panic and always return
  (DESIGN.md §7, C05; partial: resource bounds and the Go runtime are
  monitored on the implementation, not modelled).

  Proved here, for the interpreter with the function table REGENERATED from
  /repo: `Execute` never panics, for every AST whose slice literals are 64-bit
  integers and every document, and it always returns (the model is a total
  function: every definition is structurally recursive or carries a fuel; for the
  lexer's main `loop`, the parser's functions and the slice loops its exhaustion is an
  explicit `panic` outcome, excluded by these theorems, whereas `scanIdent`, `consumeUntil`,
  `rawBody` and `Json.parseValue` return a truncated result or `none` at fuel 0, and that
  their fuel suffices is a separate fact about byte counts); `Compile` never panics on any byte
  string (lexer and parser, Proofs/ParserSafe.lean), and so neither does the one-shot `Search`.
-/
import Props.Tables
import Proofs.EvalSafe
import Proofs.ApiGlue
namespace Jmes.Props
open Jmes Jmes.Interp

theorem C05_generated_table_ok : TableOK Generated.table = true := generated_table_ok
theorem C05_generated_sigs_ok : SigsOK Generated.functionTable Spec.functionTable = true := generated_sigs_ok
theorem C05_generated_lex_ok : LexTablesOK Model.lexTables Spec.lexTables = true := generated_lex_ok

variable {N : Type} [NumOps N]

/-- With the function table found in /repo's source, no call panics unless an
    expression reference among its arguments does: every handler's unchecked
    type assertion is dominated by the type check. -/
theorem C05_function_table_safe : TableSafe N Generated.functionTable := by
  intro name args hs
  rw [Fn.callFunction_congr _ _ generated_sigs_ok]
  exact Fn.spec_call_np name args hs

/-- `Execute` never panics and never hangs: every node type, every
    projection loop, every index, every slice (for all 64-bit start/stop/step),
    every function call, on every document. -/
theorem C05_execute_never_panics (n : Node N) (h : slicesOK n) (d : Val N) :
    (eval Generated.functionTable n d).isPanic = false :=
  eval_np Generated.functionTable C05_function_table_safe n h d

/-- In other words: `Execute` returns a value or an error. -/
theorem C05_execute_returns (n : Node N) (h : slicesOK n) (d : Val N) :
    (∃ v, eval Generated.functionTable n d = .ok v) ∨ (∃ e, eval Generated.functionTable n d = .err e) :=
  not_panic_cases _ (C05_execute_never_panics n h d)

/-- The integers the parser puts into slice nodes come from `strconv.Atoi`
    and are 64-bit, so the hypothesis `slicesOK` holds for parsed expressions
    (`Parser.sliceLoop` stores only `atoi` results). -/
theorem C05_atoi_is_64_bit (s : Bytes) (v : Int) (h : Parser.atoi s = some v) : Slice.InRange v :=
  Parser.atoi_inRange h

/-- The character tables found in /repo's source are safe: the guard
    `r >= 128` keeps every index into `identifierTrailingBits` in range, and no
    single-character token is tEOF. -/
theorem C05_generated_lex_tables_safe : Lexer.TablesSafe Model.lexTables := generated_lex_safe

theorem C05_generated_eof_power : Generated.table.power .eof = 0 := generated_eof_power

/-- `Compile` never panics and always returns, for ANY byte string (valid
    UTF-8 or not): the lexer consumes at least one byte per step, the token
    cursor is never read out of range, the fuel of the Pratt parser (a bound on
    its recursion) always suffices. -/
theorem C05_compile_never_panics (expr : Bytes) : (Api.compile (N := N) Model.cfg expr).isPanic = false :=
  (Api.compile_ok (N := N) Model.cfg generated_lex_safe generated_eof_power expr).isPanic

/-- End to end: the one-shot `Search` never panics and always returns, for any
    bytes as the expression and any document. -/
theorem C05_search_never_panics (expr : Bytes) (doc : Val N) : (Api.search Model.cfg expr doc).isPanic = false := by
  have hc := Api.compile_ok (N := N) Model.cfg generated_lex_safe generated_eof_power expr
  unfold Api.search
  split
  · rename_i ast h
    rw [h] at hc
    exact C05_execute_never_panics ast hc doc
  · rfl
  · rename_i h
    rw [h] at hc
    exact hc.elim

/-! Non-vacuity: a by-expression call over a slice with an extreme step satisfies `slicesOK`. -/
example : slicesOK (N := Int)
    (.pipe (.call [0x6D, 0x61, 0x70] [(true, .sub .current (.slice none none (some 9223372036854775807))), (false, .current)])
           (.proj (.flatten .current) .identity)) := by
  refine ⟨⟨⟨trivial, ?_, ?_, ?_⟩, trivial, trivial⟩, trivial, trivial⟩
  · intro x hx; cases hx
  · intro x hx; cases hx
  · intro x hx; cases hx; unfold Slice.InRange; decide

end Jmes.Props
