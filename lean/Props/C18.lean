/-
  Props.C18 — Go structs, pointers and typed slices navigate like their JSON
  form (DESIGN.md §7, C18).

  `Jmes/Typed.lean` models the reflection paths of interpreter.go / util.go
  (`fieldFromStruct`, `interfaceOf`, the `…WithReflection` loops, `isFalse`'s
  reflection cases) as `evalT` on typed values `TVal`; `view` is a document's
  JSON form, `cap` the capitalisation of `fieldFromStruct`.

  Decided on the implementation only (no theorem here): that no built-in function
  panics on typed slices (`typed` stream, the calls of `typedCall`), comparators on typed values
  (`evalT` has clauses for comparators and `length()`; `Nav` excludes them, as it does every
  function call, `*` on objects and a field name that `cap` changes).
-/
import Props.Tables
import Proofs.Typed
namespace Jmes.Props
open Jmes Jmes.Typed Jmes.Interp

theorem C18_generated_table_ok : TableOK Generated.table = true := generated_table_ok
theorem C18_generated_sigs_ok : SigsOK Generated.functionTable Spec.functionTable = true := generated_sigs_ok
theorem C18_generated_lex_ok : LexTablesOK Model.lexTables Spec.lexTables = true := generated_lex_ok

variable {N : Type} [NumOps N]

/-- **Typed = generic**, for every navigational expression (`Nav`: field access, indexing, slicing, flattening, list
    and filter projections, multi-select, `||`, `&&`, `!`, pipes, literals, nested without bound; field names are
    those `cap` leaves alone, for the other spellings of a name see `C18_struct_lookup_capitalises`) and every
    well-formed typed document that is not itself a nil pointer (`Top`; nil pointers inside it are null):
    same outcome (value, error or panic), and the typed result's JSON form is the generic result. -/
theorem C18_typed_equals_generic (cap : Bytes → Bytes) (ft : List FnEntry) (e : Node N) (hnav : Nav cap e = true)
    (d : TVal N) (hd : Top d) :
    (match evalT cap e d with
     | .ok r => eval ft e (view d) = .ok (view r)
     | .err x => eval ft e (view d) = .err x
     | .panic s => eval ft e (view d) = .panic s) :=
  (evalT_rel cap ft e hnav d hd).cases (fun _ _ => rfl) (fun _ => rfl) (fun _ => rfl)

/-- The result of a navigation never is a typed nil pointer and stays well formed. -/
theorem C18_results_are_well_formed (cap : Bytes → Bytes) (ft : List FnEntry) (e : Node N) (hnav : Nav cap e = true)
    (d : TVal N) (hd : Top d) (r : TVal N) (hr : evalT cap e d = .ok r) : Top r :=
  (evalT_rel cap ft e hnav d hd).cases (motive := fun rt _ => rt = .ok r → Top r)
    (fun _ ht e => Res.ok.inj e ▸ ht) nofun nofun hr

/-- `fieldFromStruct` matches a name after capitalising it: a key and its
    capitalised spelling reach the same struct field (`cap` idempotent). -/
theorem C18_struct_lookup_capitalises (cap : Bytes → Bytes) (hidem : ∀ k, cap (cap k) = cap k) (k : Bytes)
    (fs : List (Bytes × TVal N)) :
    fieldT cap k (.struct fs) = fieldT cap (cap k) (.struct fs) ∧
    fieldT cap k (.ptr (.struct fs)) = fieldT cap (cap k) (.ptr (.struct fs)) := by
  simp [fieldT, hidem]

/-- A nil pointer behaves as null: as a struct field, as a slice element, under a field lookup and in a
    truth test.  Nothing is said of evaluation on a nil document, where e.g. `[@]` differs from null. -/
theorem C18_nil_pointer_is_null (cap : Bytes → Bytes) (k : Bytes) (rest : List (Bytes × TVal N)) (xs : List (TVal N)) :
    fieldT cap k (.struct ((cap k, .nilptr) :: rest)) = (.null : TVal N) ∧
    indexT 0 (.slice (.nilptr :: xs)) = (.null : TVal N) ∧
    fieldT cap k (.nilptr : TVal N) = .null ∧ isFalseT (.nilptr : TVal N) = true := by
  refine ⟨?_, ?_, rfl, rfl⟩
  · simp [fieldT, fieldOfStruct, lookupT_cons, interfaceOf]
  · simp [indexT, interfaceOf]

/-- the hypotheses are satisfiable by a document with every typed shape
    (fields `A`: a slice of pointers with a nil one, `B`: a nil pointer, `C`: a slice of strings) -/
example : Top (.struct [([0x41], .slice [.ptr (.struct [([0x49], (.num 1 : TVal Int))]), .nilptr]),
    ([0x42], .nilptr), ([0x43], .slice [.str [0x74]])] : TVal Int) := by
  refine ⟨rfl, by decide, by decide, ?_, trivial, ⟨trivial, trivial⟩, trivial⟩
  exact ⟨⟨rfl, by decide, by decide, trivial, trivial⟩, trivial, trivial⟩

end Jmes.Props
