/-
  Props.C14 — identifiers, raw strings and JSON literals denote exactly the
  written name/value (DESIGN.md §7, C14): for each kind of spelling what the lexer's scanning function
  returns on it, and what `Compile`/`Search` make of the whole expression; the character tables are the
  REGENERATED ones.
-/
import Proofs.LiteralToken
import Props.Bytes
namespace Jmes.Props
open Jmes Jmes.Lexer

theorem C14_generated_table_ok : TableOK Generated.table = true := generated_table_ok
theorem C14_generated_sigs_ok : SigsOK Generated.functionTable Spec.functionTable = true := generated_sigs_ok
theorem C14_generated_lex_ok : LexTablesOK Model.lexTables Spec.lexTables = true := generated_lex_ok

/-- A raw string literal (with ' written as \') denotes exactly the string: scanning the spelling
    followed by the closing quote yields the string and leaves the rest of the expression — for every
    well-formed UTF-8 string that does not end with a backslash, backslashes
    included (also directly before a quote: `\'` is written `\\'`).
    For this spelling the condition is necessary (`C14_raw_string_trailing_backslash_is_unspellable`).
    Well-formedness is not used: `rawBody_rawSpell_bytes` holds of every byte string. -/
theorem C14_raw_string_round_trip (s rest : Bytes) (ha : Json.ValidUtf8 s) (hok : RawEndOK s) :
    rawBody (rawSpell s ++ 0x27 :: rest).length (rawSpell s ++ 0x27 :: rest) = some (s, rest) :=
  rawBody_rawSpell_bytes s rest _ hok (by simp)

theorem C14_raw_string_condition (s : Bytes) : RawEndOK s ↔ s.getLast? ≠ some 0x5C :=
  RawEndOK_iff_getLast? s

/-- A string that ends with a backslash cannot be written with the spelling `rawSpell`: in the
    spelling of `s ++ "\\"` followed by the closing quote, the last backslash escapes that quote and
    the scanner runs off the end of the input (an unterminated literal) — for every byte string `s`
    and whatever the fuel. -/
theorem C14_raw_string_trailing_backslash_is_unspellable (s : Bytes) (fuel : Nat) :
    rawBody fuel (rawSpell (s ++ [0x5C]) ++ 0x27 :: []) = none := by
  rw [rawSpell_eq, spell_append, List.append_assoc]
  exact rawSpell_eq ▸ rawBody_trailing_backslash s fuel

/-- … so the hypothesis of `C14_raw_string_round_trip` cannot be dropped: with the fuel used
    there, the spelling of a string that ends with a backslash is never read back as the string. -/
theorem C14_raw_string_trailing_backslash_no_round_trip (s : Bytes) :
    rawBody (rawSpell (s ++ [0x5C]) ++ 0x27 :: []).length (rawSpell (s ++ [0x5C]) ++ 0x27 :: [])
      ≠ some (s ++ [0x5C], []) := by
  rw [C14_raw_string_trailing_backslash_is_unspellable]; exact fun h => nomatch h

/-- Quoted identifiers and literals: the delimiter scan returns exactly the
    delimited text, and leaves what follows the closing delimiter, when the text is
    made of units (plain ASCII bytes, a backslash and the ASCII byte it escapes,
    well-formed multi-byte runes) — which is what JSON string escaping and the \` spelling produce. -/
theorem C14_delimited_text (endc : UInt8) (he : endc < 0x80) (hne : endc ≠ 0x5C) (body rest : Bytes)
    (hu : Units endc body) :
    consumeUntil endc.toNat (body ++ endc :: rest).length (body ++ endc :: rest) = some (body, rest) :=
  consumeUntil_units endc he hne body hu rest _ (by simp)

/-- The backtick literal: replacing \` by ` recovers the JSON text, whatever it is. -/
theorem C14_literal_unescape (jsonText : Bytes) : unescapeBacktick (btSpell jsonText) = jsonText :=
  unescapeBacktick_btSpell jsonText

def isAlphaUnderscore (r : Nat) : Bool := (0x41 ≤ r && r ≤ 0x5A) || (0x61 ≤ r && r ≤ 0x7A) || r == 0x5F
def isAlnumUnderscore (r : Nat) : Bool := isAlphaUnderscore r || (0x30 ≤ r && r ≤ 0x39)

theorem shl1_big (k : Nat) (h : 64 ≤ k) : shl1 k = 0 := if_neg (Nat.not_lt.mpr h)

/-- Outside 64..127 no code point (nor end of input, which `uint64(r)` turns
    into 2^64−1) passes the identifier-start test, whatever the mask: Go's shift
    semantics make `1 << k` vanish for k ≥ 64. -/
theorem identStart_range (bits r : Nat) (hr64 : r < 2 ^ 64) (h : identStart bits r = true) : 64 ≤ r ∧ r < 128 := by
  unfold identStart at h
  by_cases hr : 64 ≤ r ∧ r < 128
  · exact hr
  · have : shl1 (subWrap64 r) = 0 := shl1_big _ (by unfold subWrap64; omega)
    rw [this] at h
    simp at h

/-- The REGENERATED start mask denotes exactly [A-Za-z_] — on every rune and on end of input. -/
theorem C14_identifier_start (r : Nat) (hr64 : r < 2 ^ 64) :
    identStart Generated.identifierStartBits r = isAlphaUnderscore r := by
  by_cases hr : 64 ≤ r ∧ r < 128
  · have : ∀ k, k < 64 → identStart Generated.identifierStartBits (64 + k) = isAlphaUnderscore (64 + k) := by decide +kernel
    have := this (r - 64) (by omega)
    rwa [show 64 + (r - 64) = r by omega] at this
  · have h1 : identStart Generated.identifierStartBits r = false :=
      Bool.eq_false_iff.mpr fun h => hr (identStart_range _ r hr64 h)
    rw [h1]
    unfold isAlphaUnderscore
    symm
    simp only [Bool.or_eq_false_iff, Bool.and_eq_false_iff, decide_eq_false_iff_not, beq_eq_false_iff_ne]
    omega

/-- The REGENERATED trailing mask denotes exactly [A-Za-z0-9_]: the scanner
    continues on exactly those runes (and never indexes the table out of range). -/
theorem C14_identifier_trailing (r : Nat) :
    identTrail Generated.identifierTrailingBits r = .ok (isAlnumUnderscore r) := by
  by_cases hr : r < 128
  · have : ∀ k, k < 128 → (match identTrail Generated.identifierTrailingBits k with
        | .ok bv => bv == isAlnumUnderscore k
        | _ => false) = true := by decide +kernel
    have := this r hr
    cases h : identTrail Generated.identifierTrailingBits r with (rw [h] at this)
    | ok bv => simp at this; rw [this]
    | err _ | panic _ => simp at this
  · rw [show identTrail Generated.identifierTrailingBits r = .ok false from if_pos (Nat.le_of_not_lt hr)]
    congr 1
    unfold isAlnumUnderscore isAlphaUnderscore
    symm
    simp only [Bool.or_eq_false_iff, Bool.and_eq_false_iff, decide_eq_false_iff_not, beq_eq_false_iff_ne]
    omega

/-- The REGENERATED white-space table holds the four white-space characters of the
    language (space, tab, line feed, carriage return) and nothing else: these are the
    runes the lexer skips without a token. -/
theorem C14_white_space (r : Nat) : Generated.whiteSpace.contains r = (r == 0x20 || r == 0x09 || r == 0x0A || r == 0x0D) := by
  -- stated up to the order in which the source (or the exhaustive probe) lists the four characters
  have hp : Generated.whiteSpace.Perm [0x20, 0x09, 0x0A, 0x0D] := by decide
  rw [hp.contains_eq]
  simp only [List.contains_cons, List.contains_nil, Bool.or_false, Bool.or_assoc]

example : RawOK [0x61, 0x5C, 0x62, 0x27, 0x63] ∧ Ascii [0x61, 0x5C, 0x62, 0x27, 0x63] := by
  refine ⟨by simp [RawOK], ?_⟩
  intro c hc; simp at hc; rcases hc with rfl | rfl | rfl | rfl | rfl <;> decide
example : RawEndOK [0x61, 0x5C, 0x62, 0x27, 0x63] := RawOK.toEnd (by simp [RawOK])
example : rawSpell [0x61, 0x5C, 0x62, 0x27, 0x63] = [0x61, 0x5C, 0x62, 0x5C, 0x27, 0x63] := by decide
/-- a backslash directly before a quote: `a\'b`, spelled `a\\'b` -/
example : RawEndOK [0x61, 0x5C, 0x27, 0x62] ∧ ¬ RawOK [0x61, 0x5C, 0x27, 0x62] := by
  refine ⟨by simp [RawEndOK], by simp [RawOK]⟩
example : rawSpell [0x61, 0x5C, 0x27, 0x62] = [0x61, 0x5C, 0x5C, 0x27, 0x62] := by decide
example : rawBody (rawSpell [0x61, 0x5C, 0x27, 0x62] ++ 0x27 :: [0x2E, 0x78]).length
    (rawSpell [0x61, 0x5C, 0x27, 0x62] ++ 0x27 :: [0x2E, 0x78]) = some ([0x61, 0x5C, 0x27, 0x62], [0x2E, 0x78]) := by decide
example : Json.ValidUtf8 [0x61, 0x5C, 0x27, 0x62] :=
  .ascii _ _ (by decide) (.ascii _ _ (by decide) (.ascii _ _ (by decide) (.ascii _ _ (by decide) .nil)))
/-- the string `\'` alone, and the trailing backslash whose spelling is not read back -/
example : rawBody 4 (rawSpell [0x5C, 0x27] ++ [0x27]) = some ([0x5C, 0x27], []) := by decide
example : ¬ RawEndOK [0x61, 0x5C] := by simp [RawEndOK]
example : rawBody 4 (rawSpell [0x61, 0x5C] ++ [0x27]) = none := by decide
example : Units 0x22 [0x61, 0x5C, 0x22, 0x5C, 0x5C] :=
  .plain _ _ (by decide) (by decide) (by decide) (.esc _ _ (by decide) (.esc _ _ (by decide) .nil))

open Jmes.Lexer in
/-- The lexer of /repo (regenerated character tables) returns exactly the
    tokens a byte string renders — identifiers `[A-Za-z_][A-Za-z0-9_]*`,
    numbers, operators, raw strings `'…'` (value = the string written, `\'` for
    a quote), literals (value = the JSON text, `` \` `` for a backtick), quoted
    identifiers (value = the JSON-decoded name) — whatever white space
    separates them. -/
theorem C14_tokens_read_back (keys : List (TokType × Bytes)) (s : Bytes) (hr : Rendered keys s) :
    ∃ lexed, Lexer.tokenize Model.lexTables s = .ok (lexed ++ [⟨.eof, [], s.length⟩]) ∧ lexed.map keyOf = keys :=
  tokenize_rendered (tablesAscii_of_bool generated_tables_ascii) hr

open Jmes.Lexer in
/-- White space is insignificant: two byte strings that render the same tokens (they differ in the
    white space around the tokens, and in how a quoted identifier escapes its name) compile alike —
    if one compiles to `ast`, so does the other. -/
theorem C14_white_space_insignificant {N : Type} [NumOps N] (keys : List (TokType × Bytes)) (s1 s2 : Bytes) (ast : Node N)
    (h1 : Rendered keys s1) (h2 : Rendered keys s2) (hp : Api.compile Model.cfg s1 = .ok ast) :
    Api.compile Model.cfg s2 = .ok ast :=
  compile_same_tokens h1 h2 hp

open Jmes.Lexer Jmes.Json in
/-- For every well-formed UTF-8 string `s`, the quoted identifier spelled with
    JSON string escaping (`"` + `json.Marshal` body of `s` + `"`) is read by
    /repo's lexer as the token (quoted identifier, value `s`) — every plane,
    control characters, quotes, backslashes, `<`, `>`, `&`, U+2028/9 included. -/
theorem C14_quoted_identifier_token (s : Bytes) (hv : ValidUtf8 s) :
    ∃ pos, Lexer.tokenize Model.lexTables (0x22 :: (escape s ++ [0x22])) =
      .ok [⟨.qident, s, pos⟩, ⟨.eof, [], (0x22 :: (escape s ++ [0x22])).length⟩] := by
  obtain ⟨lexed, hl, hk⟩ := tokenize_rendered (tablesAscii_of_bool generated_tables_ascii) (Rendered.one (spell_quoted s hv))
  obtain ⟨⟨ty, v, pos⟩, rfl, hkey⟩ := List.map_eq_singleton_iff.mp hk
  obtain ⟨rfl, rfl⟩ := Prod.mk.inj hkey
  exact ⟨pos, hl⟩

open Jmes.Lexer Jmes.Json Jmes.Spec in
/-- … and selects exactly the key `s`: `Search` with that expression on an object returns the
    member named `s` (null when there is none). -/
theorem C14_quoted_identifier_selects_key {N : Type} [NumOps N] (s : Bytes) (hv : ValidUtf8 s)
    (kvs : List (Bytes × Val N)) :
    Api.search Model.cfg (0x22 :: (escape s ++ [0x22])) (.obj kvs) = .ok ((Val.lookup s kvs).getD .null) :=
  search_atom (e := PE.quoted s) trivial rfl (spell_quoted s hv) _

open Jmes.Json in
/-- For every JSON value `v` (finite numbers, well-formed UTF-8, ascending keys, nesting within
    the decoder's limit), the text `json.Marshal` writes for `v` decodes to exactly `v` — so the
    backtick literal spelled as that text (with `` ` `` written `` \` ``,
    `C14_literal_unescape`) denotes exactly `v`.  Conditional on `NumCodec`
    (the number text codec is ported, not verified). -/
theorem C14_literal_text_denotes_value {N : Type} [NumOps N] (hN : NumCodec N) (v : Val N) (hv : okV v) (hd : depthV v ≤ maxDepth) :
    (Json.decode (unescapeBacktick (btSpell (encode v))) : Option (Val N)) = some v := by
  rw [unescapeBacktick_btSpell]
  exact decode_encode hN v hv hd

open Jmes.Lexer Jmes.Json Jmes.Spec in
/-- Raw strings, end to end: for every well-formed UTF-8 string `s` that does not end with a
    backslash, `Search` with the expression `'` + the spelling of `s` + `'` returns exactly the
    string `s`, whatever the document. -/
theorem C14_raw_string_denotes {N : Type} [NumOps N] (s : Bytes) (hv : ValidUtf8 s) (hok : RawEndOK s) (d : Val N) :
    Api.search Model.cfg (0x27 :: (rawSpell s ++ [0x27])) d = .ok (.str s) :=
  search_atom (e := PE.raw s) trivial rfl (Spell.raw s hv hok) d

open Jmes.Lexer Jmes.Json Jmes.Spec in
/-- **Backtick literals, end to end, for every JSON value** (finite numbers, well-formed UTF-8,
    ascending keys, nesting within the decoder's limit): the expression `` ` `` + JSON text of `v`
    with `` ` `` written `` \` `` + `` ` `` compiles to the literal `v`, so `Search` returns exactly
    `v` on every document.  Conditional on the number-text contract (`NumCodec`: the text reads
    back; `NumPlain`: it is plain ASCII) — both proved for the integer instance
    (`C14_literal_contract_satisfiable`), assumed for the ported float formatter. -/
theorem C14_literal_denotes {N : Type} [NumOps N] (hN : NumCodec N) (hP : NumPlain N) (v : Val N) (hv : okV v)
    (hd : depthV v ≤ maxDepth) (d : Val N) :
    Api.search Model.cfg (0x60 :: (btSpell (encode v) ++ [0x60])) d = .ok v :=
  search_atom (e := PE.lit (encode v) v) (decode_encode hN v hv hd) rfl (spell_literal hP v hv) d

/-- The two number-text hypotheses are satisfiable together (integer instance). -/
theorem C14_literal_contract_satisfiable : Json.NumCodec Int ∧ Lexer.NumPlain Int := ⟨intNumCodec, intNumPlain⟩

end Jmes.Props
