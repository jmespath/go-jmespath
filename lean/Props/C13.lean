/-
  Props.C13 — compiled expressions and parsers are history-independent;
  one-shot = compiled (DESIGN.md §7, C13).  Statements are about the API state
  machine `Api.step` (Jmes/Api.lean), in which a Go `Parser` object keeps its
  three fields between calls, a compiled expression keeps its AST, and
  documents are shared values.
-/
import Props.Tables
import Props.Writes
import Proofs.Api
import Proofs.ApiGlue
namespace Jmes.Props
open Jmes Jmes.Api

theorem C13_generated_table_ok : TableOK Generated.table = true := generated_table_ok
theorem C13_generated_sigs_ok : SigsOK Generated.functionTable Spec.functionTable = true := generated_sigs_ok
theorem C13_generated_lex_ok : LexTablesOK Model.lexTables Spec.lexTables = true := generated_lex_ok

/-- The regenerated write-site facts: a Search writes neither to the compiled
    expression nor to package state, which is why the model may treat a compiled
    expression as an immutable value. -/
theorem C13_generated_writes_ok : WritesOK GeneratedWrites.writeSites = true := generated_writes_ok

variable {N : Type} [NumOps N]

/-- A Parser that has been used before — whatever its `expression`, `tokens`
    and `index` fields hold, e.g. after a failed parse — returns on every
    expression what a freshly created Parser returns.  The model's `parse` reads no field
    of the object (it only writes them), so this is what the model makes true by
    construction; it is no check that parser.go resets what it reads. -/
theorem C13_parser_reuse (cfg : Config) (p : ParserObj) (expr : Bytes) :
    ((p.parse cfg expr).2 : Res (Node N)) = (({} : ParserObj).parse cfg expr).2 :=
  (parse_eq_parseWith cfg p expr).trans (parse_eq_parseWith cfg {} expr).symm

/-- The one-shot `Search` is `Compile` followed by the compiled expression's `Search`. -/
theorem C13_oneshot_is_compile_then_search (cfg : Config) (expr : Bytes) (doc : Val N) :
    search cfg expr doc = (match (compile cfg expr : Res (Node N)) with
      | .ok ast => searchCompiled cfg ast doc
      | .err e => .err e
      | .panic s => .panic s) := rfl

theorem lookup_setKey_ne {α} (k k' : Nat) (v : α) (l : List (Nat × α)) (h : k' ≠ k) :
    (setKey k v l).lookup k' = l.lookup k' := by
  have hb : (k' == k) = false := by simp [h]
  induction l with
  | nil =>
    show List.lookup k' [(k, v)] = none
    simp [List.lookup_cons, hb]
  | cons kv rest ih =>
    obtain ⟨a, c⟩ := kv
    show (if a = k then (k, v) :: rest else (a, c) :: setKey k v rest).lookup k' = _
    split
    · rename_i hk; subst hk; simp [List.lookup_cons, hb]
    · simp only [List.lookup_cons, ih]

theorem lookup_delKey_ne {α} (k k' : Nat) (l : List (Nat × α)) (h : k' ≠ k) :
    (delKey k l).lookup k' = l.lookup k' := by
  have hb : (k' == k) = false := by simp [h]
  induction l with
  | nil => rfl
  | cons kv rest ih =>
    obtain ⟨a, c⟩ := kv
    show (if a = k then rest else (a, c) :: delKey k rest).lookup k' = _
    split
    · rename_i hk; subst hk; simp [List.lookup_cons, hb]
    · simp only [List.lookup_cons, ih]

theorem step_frame (cfg : Config) (s : State N) (op : Op N) (h d : Nat)
    (hc : ∀ e, op ≠ .compile h e) (hd : ∀ v, op ≠ .doc d v) :
    (step cfg s op).1.handles.lookup h = s.handles.lookup h ∧ (step cfg s op).1.docs.lookup d = s.docs.lookup d := by
  cases op with
  | doc id v =>
    have : d ≠ id := fun e => hd v (by rw [e])
    exact ⟨rfl, lookup_setKey_ne id d v s.docs this⟩
  | compile h' expr =>
    have : h ≠ h' := fun e => hc expr (by rw [e])
    simp only [step]
    cases (compile cfg expr : Res (Node N)) with
    | ok ast => exact ⟨lookup_setKey_ne h' h ast s.handles this, rfl⟩
    | err e => exact ⟨lookup_delKey_ne h' h s.handles this, rfl⟩
    | panic p => exact ⟨rfl, rfl⟩
  | searchC h' d' => rw [step_searchC_state]; exact ⟨rfl, rfl⟩
  | search e d' => rw [step_search_state]; exact ⟨rfl, rfl⟩
  | parse k e => exact ⟨rfl, rfl⟩

theorem searchC_congr (cfg : Config) (s1 s2 : State N) (h d : Nat)
    (hh : s1.handles.lookup h = s2.handles.lookup h) (hd : s1.docs.lookup d = s2.docs.lookup d) :
    (step cfg s1 (.searchC h d)).2 = (step cfg s2 (.searchC h d)).2 :=
  step_searchC_answer hh hd

/-- History independence: after ANY sequence of operations that does not
    recompile handle `h` or replace document `d` — searches of other documents,
    failing searches, repetitions, one-shot searches, parser uses — searching
    `d` with `h` answers exactly what it answered before the sequence. -/
theorem C13_history_independent (cfg : Config) (s : State N) (ops : List (Op N)) (h d : Nat)
    (hops : ∀ op ∈ ops, (∀ e, op ≠ .compile h e) ∧ (∀ v, op ≠ .doc d v)) :
    (step cfg (run cfg s ops).1 (.searchC h d)).2 = (step cfg s (.searchC h d)).2 := by
  induction ops generalizing s with
  | nil => rfl
  | cons op ops ih =>
    have ⟨h1, hrest⟩ := List.forall_mem_cons.mp hops
    have hf := step_frame cfg s op h d h1.1 h1.2
    have := ih (step cfg s op).1 hrest
    show (step cfg (run cfg (step cfg s op).1 ops).1 (.searchC h d)).2 = _
    rw [this]
    exact searchC_congr cfg _ _ h d hf.1 hf.2

/-- A compiled expression's `Search` answers what the one-shot `Search` answers for the expression it was compiled from. -/
theorem C13_compiled_equals_oneshot (cfg : Config) (expr : Bytes) (ast : Node N) (doc : Val N)
    (hc : (compile cfg expr : Res (Node N)) = .ok ast) :
    searchCompiled cfg ast doc = search cfg expr doc := by
  simp only [search, hc]
  rfl

end Jmes.Props
