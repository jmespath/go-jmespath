/-
  Props.Writes — the obligation on the write-site facts regenerated from /repo
  (tools/writesites, go/ssa): every instruction reachable from the public entry
  points that writes memory writes to an object the call itself created
  (`fresh`) or to one of its per-call objects (`callLocal`) — never to a
  parameter (the caller's document), to the receiver (the shared compiled
  expression, interpreter, function table) or to package-level state.
-/
import Jmes.GeneratedWrites
namespace Jmes.Props
open Jmes.GeneratedWrites

def WritesOK (ws : List WriteSite) : Bool :=
  ws.all fun w => w.origin == .fresh || w.origin == .callLocal

theorem generated_writes_ok : WritesOK writeSites = true := by decide +kernel

/-- The write sites that are not private to the call (empty on a healthy tree). -/
def offending (ws : List WriteSite) : List WriteSite :=
  ws.filter fun w => !(w.origin == .fresh || w.origin == .callLocal)

end Jmes.Props
