/-
  Props.C01 — core expression evaluation conforms to the JMESPath
  specification (DESIGN.md §7, C01).  `Spec.den` is the specification's
  total meaning of the core fragment; `toNode` is the AST the parser builds for
  it; the theorem says `Execute` computes `den`, never failing, on every
  document.
-/
import Proofs.GenIndex
import Props.Tables
import Spec.Semantics
import Proofs.EvalEq
import Props.Bytes
namespace Jmes.Props
open Jmes Jmes.Interp Jmes.Spec

-- The tie to the source: the tables regenerated from /repo on every run meet the obligations of `Props.Tables`
-- (restated at the head of every `Props/Cxx.lean`, so that each property's check lists them among its theorems).
theorem C01_generated_table_ok : TableOK Generated.table = true := generated_table_ok
theorem C01_generated_sigs_ok : SigsOK Generated.functionTable Spec.functionTable = true := generated_sigs_ok
theorem C01_generated_lex_ok : LexTablesOK Model.lexTables Spec.lexTables = true := generated_lex_ok

variable {N : Type} [NumOps N]

mutual
def toNode : Core N → Node N
  | .field k => .field k
  | .index i => .indexExpr .identity (.index i)
  | .sub a b => .sub (toNode a) (toNode b)
  | .idx a i => .indexExpr (toNode a) (.index i)
  | .literal v => .literal v
  | .current => .current
  | .pipe a b => .pipe (toNode a) (toNode b)
  | .list xs => .msList (toNodes xs)
  | .hash kvs => .msHash (toNodeKVs kvs)
def toNodes : List (Core N) → List (Node N)
  | [] => []
  | x :: xs => toNode x :: toNodes xs
def toNodeKVs : List (Bytes × Core N) → List (Bytes × Node N)
  | [] => []
  | (k, x) :: xs => (k, toNode x) :: toNodeKVs xs
end

omit [NumOps N] in
/-- The interpreter's index arithmetic is the specification's. -/
theorem indexArr_eq_elemAt (xs : List (Val N)) (i : Int) : indexArr xs i = elemAt xs i := by
  unfold indexArr elemAt
  by_cases h0 : 0 ≤ i
  · rw [if_pos h0]
    simp only [show ¬ i < 0 by omega, if_false]
    by_cases hl : i < xs.length
    · rw [if_pos ⟨hl, h0⟩]
    · rw [if_neg (by omega), List.getD_eq_getElem?_getD, List.getElem?_eq_none (by omega)]; rfl
  · rw [if_neg h0]
    simp only [show i < 0 by omega, if_true]
    by_cases hl : -(xs.length : Int) ≤ i
    · rw [if_pos hl, if_pos (by omega)]
    · rw [if_neg hl, if_neg (by omega)]

/-- ON THE CODE AS WRITTEN: `GenSlice.indexSel` is the translation (tools/gotolean, on every run) of the
    index clause of `Execute` in interpreter.go — the statements under `case ASTIndex:` for a `[]interface{}`.
    For every length of a Go slice and every int64 index, reading the position it selects is the specification's
    `elemAt` (negative indices count from the end, out of range is null). -/
theorem C01_translated_index_clause (xs : List (Val N)) (i : Int) (hlen : (xs.length : Int) ≤ 9223372036854775807)
    (hi : -9223372036854775808 ≤ i ∧ i ≤ 9223372036854775807) :
    (match GenSlice.indexSel xs.length i with
      | some k => xs.getD k.toNat .null
      | none => .null) = elemAt xs i :=
  (gen_index_is_indexArr hlen hi).symm.trans (indexArr_eq_elemAt xs i)

example : GenSlice.indexSel 3 (-1) = some 2 ∧ GenSlice.indexSel 3 3 = none ∧ GenSlice.indexSel 3 (-4) = none ∧ GenSlice.indexSel 0 0 = none := by decide

mutual
/-- Conformance: on every document, the core fragment evaluates — without
    error — to the value the specification assigns. -/
theorem C01_core_conformance (ft : List FnEntry) : ∀ (c : Core N) (d : Val N), eval ft (toNode c) d = .ok (den c d)
  | .field k, d => by cases d <;> rfl
  | .index i, d => by
    cases d with
    | arr xs => exact congrArg Res.ok (indexArr_eq_elemAt xs i)
    | _ => rfl
  | .sub a b, d =>
    (eval_sub ft _ _ d).trans (by rw [C01_core_conformance ft a d]; exact C01_core_conformance ft b _)
  | .pipe a b, d =>
    (eval_pipe ft _ _ d).trans (by rw [C01_core_conformance ft a d]; exact C01_core_conformance ft b _)
  | .idx a i, d =>
    (eval_indexExpr ft _ _ d).trans (by
      rw [C01_core_conformance ft a d]
      show eval ft (.index i) (den a d) = .ok (indexOf i (den a d))
      cases den a d with
      | arr xs => exact congrArg Res.ok (indexArr_eq_elemAt xs i)
      | _ => rfl)
  | .literal v, d => rfl
  | .current, d => rfl
  | .list xs, d => (eval_msList ft _ d).trans (by rw [C01_list ft xs d]; cases d <;> rfl)
  | .hash kvs, d => (eval_msHash ft _ d).trans (by rw [C01_hash ft kvs d]; cases d <;> rfl)
theorem C01_list (ft : List FnEntry) : ∀ (xs : List (Core N)) (d : Val N), evalList ft (toNodes xs) d = .ok (denList xs d)
  | [], _ => rfl
  | x :: xs, d => (evalList_cons ft _ _ d).trans (by rw [C01_core_conformance ft x d, C01_list ft xs d]; rfl)
theorem C01_hash (ft : List FnEntry) : ∀ (kvs : List (Bytes × Core N)) (d : Val N),
    evalKVs ft (toNodeKVs kvs) d = .ok (denKVs kvs d)
  | [], _ => rfl
  | (k, x) :: xs, d => (evalKVs_cons ft k _ _ d).trans (by rw [C01_core_conformance ft x d, C01_hash ft xs d]; rfl)
end

/-! The cases the property names: facts about `den`, carried to `Execute` by `C01_core_conformance`. -/

omit [NumOps N] in
theorem C01_missing_key_is_null (k : Bytes) (kvs : List (Bytes × Val N)) (h : Val.lookup k kvs = none) :
    den (.field k) (.obj kvs) = (.null : Val N) := by
  show (Val.lookup k kvs).getD .null = .null
  rw [h, Option.getD_none]

omit [NumOps N] in
theorem C01_field_of_non_object_is_null (k : Bytes) (d : Val N) (h : ∀ kvs, d ≠ .obj kvs) :
    den (.field k) d = .null := by
  cases d with
  | obj kvs => exact absurd rfl (h kvs)
  | _ => rfl

omit [NumOps N] in
theorem C01_out_of_range_index_is_null (xs : List (Val N)) (i : Int) (h : (xs.length : Int) ≤ i ∨ i < -(xs.length : Int)) :
    den (.index i) (.arr xs) = .null := by
  show elemAt xs i = .null
  unfold elemAt
  rcases h with h | h
  · rw [if_pos (by omega), List.getD_eq_getElem?_getD, List.getElem?_eq_none (by omega)]; rfl
  · rw [if_neg (by omega), if_neg (by omega)]

omit [NumOps N] in
theorem C01_negative_index_counts_from_end (xs : List (Val N)) (k : Nat) (hk : 0 < k) (hl : k ≤ xs.length) :
    den (.index (-(k : Int))) (.arr xs) = xs.getD (xs.length - k) .null := by
  show elemAt xs (-(k : Int)) = _
  unfold elemAt
  have h0 : ¬ (0 : Int) ≤ -(k : Int) := by omega
  have h1 : -(xs.length : Int) ≤ -(k : Int) := by omega
  have : (-(k : Int) + xs.length).toNat = xs.length - k := by omega
  rw [if_neg h0, if_pos h1, this]

omit [NumOps N] in
theorem C01_multiselect_on_null_is_null (xs : List (Core N)) (kvs : List (Bytes × Core N)) :
    den (.list xs) (.null : Val N) = .null ∧ den (.hash kvs) (.null : Val N) = .null :=
  ⟨rfl, rfl⟩

/-- Non-vacuity: a negative index on a multi-select result, a field access on
    a string, a pipe after a null, the empty quoted key. -/
example : den (N := Int) (.idx (.list [.field [0x61], .literal (.num 7)]) (-1)) (.obj [([0x61], .num 1)]) = .num 7 := rfl
example : den (N := Int) (.sub (.field [0x73]) (.field [])) (.obj [([0x73], .str [0x78])]) = .null := rfl
example : den (N := Int) (.pipe (.field [0x6D]) (.literal (.num 1))) (.obj []) = .num 1 := rfl

open Jmes.Parser

mutual
/-- the core part of the concrete syntax `Spec.PE` (Spec/Printer.lean) -/
def isCore : PE N → Bool
  | .ident _ | .quoted _ | .raw _ | .lit _ _ | .current | .idx0 _ _ => true
  | .idx l _ _ => isCore l
  | .sub l r => isCore l && isCore r
  | .bin .pipe l r => isCore l && isCore r
  | .list x xs => isCore x && isCoreList xs
  | .hash _ _ v kvs => isCore v && isCoreKVs kvs
  | .paren e => isCore e
  | _ => false
def isCoreList : List (PE N) → Bool
  | [] => true
  | x :: xs => isCore x && isCoreList xs
def isCoreKVs : List (Bool × Bytes × PE N) → Bool
  | [] => true
  | (_, _, v) :: rest => isCore v && isCoreKVs rest
end

mutual
/-- Total for convenience; to be read only where `isCore e` holds. -/
def coreOf : PE N → Core N
  | .ident n => .field n
  | .quoted n => .field n
  | .raw s => .literal (.str s)
  | .lit _ v => .literal v
  | .current => .current
  | .idx0 _ i => .index i
  | .idx l _ i => .idx (coreOf l) i
  | .sub l r => .sub (coreOf l) (coreOf r)
  | .bin _ l r => .pipe (coreOf l) (coreOf r)
  | .list x xs => .list (coreOf x :: coreOfList xs)
  | .hash _ k v kvs => .hash ((k, coreOf v) :: coreOfKVs kvs)
  | .paren e => coreOf e
  | _ => .current
def coreOfList : List (PE N) → List (Core N)
  | [] => []
  | x :: xs => coreOf x :: coreOfList xs
def coreOfKVs : List (Bool × Bytes × PE N) → List (Bytes × Core N)
  | [] => []
  | (_, k, v) :: rest => (k, coreOf v) :: coreOfKVs rest
end

section
omit [NumOps N]
mutual
theorem node_coreOf : (e : PE N) → isCore e = true → node e = toNode (coreOf e) := fun e h => by
  cases e with
  | ident _ | quoted _ | raw _ | lit _ _ | current | idx0 _ _ => rfl
  | idx l _ i => exact congrArg (Node.indexExpr · (.index i)) (node_coreOf l h)
  | sub l r =>
    have h := Bool.and_eq_true_iff.mp h
    exact congr (congrArg Node.sub (node_coreOf l h.1)) (node_coreOf r h.2)
  | bin op l r =>
    cases op with
    | pipe =>
      have h := Bool.and_eq_true_iff.mp h
      exact congr (congrArg Node.pipe (node_coreOf l h.1)) (node_coreOf r h.2)
    | _ => cases h
  | list x xs =>
    have h := Bool.and_eq_true_iff.mp h
    exact congrArg Node.msList (congr (congrArg List.cons (node_coreOf x h.1)) (nodeList_coreOf xs h.2))
  | hash _ k v kvs =>
    have h := Bool.and_eq_true_iff.mp h
    exact congrArg Node.msHash (congr (congrArg (fun n ns => (k, n) :: ns) (node_coreOf v h.1)) (nodeKVs_coreOf kvs h.2))
  | paren e => exact node_coreOf e h
  | _ => cases h
theorem nodeList_coreOf : (xs : List (PE N)) → isCoreList xs = true → nodeList xs = toNodes (coreOfList xs)
  | [], _ => rfl
  | x :: xs, h =>
    have h := Bool.and_eq_true_iff.mp h
    congr (congrArg List.cons (node_coreOf x h.1)) (nodeList_coreOf xs h.2)
theorem nodeKVs_coreOf : (kvs : List (Bool × Bytes × PE N)) → isCoreKVs kvs = true → nodeKVs kvs = toNodeKVs (coreOfKVs kvs)
  | [], _ => rfl
  | (_, k, v) :: rest, h =>
    have h := Bool.and_eq_true_iff.mp h
    congr (congrArg (fun n ns => (k, n) :: ns) (node_coreOf v h.1)) (nodeKVs_coreOf rest h.2)
end
end

/-- **End to end.**  The tokens the printer writes for a well-formed core expression (`Parser.wf`: token texts
    denote their values, a dot is followed by what the grammar allows there), explicit parentheses included, are
    parsed by /repo's parser (regenerated table) into an AST that evaluates, on every document and without
    error, to the value the specification assigns to the expression. -/
theorem C01_printed_core_evaluates_to_den (ft : List FnEntry) (e : PE N) (hc : isCore e = true) (hw : Parser.wf e) (d : Val N) :
    (parseTokens Generated.table (ppE e ++ [eofTok 0]) >>= fun ast => eval ft ast d) = .ok (den (coreOf e) d) := by
  rw [round_trip_generated e hw, node_coreOf e hc]
  exact C01_core_conformance ft _ d

open Jmes.Lexer in
/-- **End to end from bytes.**  Any rendering (`Rendered`: each token in any of its spellings, any white
    space) of a well-formed printed core expression: `Search` returns the specification's value. -/
theorem C01_written_core_evaluates_to_den (e : PE N) (hc : isCore e = true) (hw : Parser.wf e)
    (keys : List (TokType × Bytes)) (s : Bytes) (hk : KeysOf (ppE e) keys) (hr : Rendered keys s) (d : Val N) :
    Api.search Model.cfg s d = .ok (den (coreOf e) d) := by
  simp only [Api.search, compile_printed hw hk hr]
  rw [node_coreOf e hc]
  exact C01_core_conformance _ _ d

/-- **Every expression, however it is written**: if the bytes compile to the AST of a core term `c`
    — the image of `toNode`: identifiers, sub-expressions, indices, literals, raw strings, `@`, pipes,
    multi-select lists and hashes — then `Search` returns exactly the value the specification assigns
    to `c`, on every document and without error.  (Which AST a given spelling compiles to is the
    subject of C03 and C04; this statement needs no assumption on the spelling.) -/
theorem C01_compiled_core_evaluates_to_den (s : Bytes) (c : Core N) (h : Api.compile Model.cfg s = .ok (toNode c)) (d : Val N) :
    Api.search Model.cfg s d = .ok (den c d) := by
  simp only [Api.search, h]
  exact C01_core_conformance _ c d

end Jmes.Props
