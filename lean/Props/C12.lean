/-
  Props.C12 — a compiled expression is safe for concurrent use (DESIGN.md §7, C12).

  The write-site facts regenerated from /repo (`C12_generated_writes_ok`: no reachable instruction writes to
  the compiled expression, to package state or to the caller's documents) are READ as the hypothesis
  `WritesPrivate` of the abstract machine of Spec/Threads.lean, whose theorems are restated here; no Lean term
  relates the two, and `ReadsOwn` has no regenerated counterpart.
  What the model cannot exhibit — the Go memory model below sequential
  consistency, the race detector's happens-before — is left to the run of
  the real code under `-race` with N goroutines per compiled expression
  (harness `race` mode), each result compared with that of the same call made alone.
-/
import Props.Tables
import Props.Writes
import Proofs.Threads
import Proofs.Api
namespace Jmes.Props
open Jmes Jmes.Api

theorem C12_generated_table_ok : TableOK Generated.table = true := generated_table_ok
theorem C12_generated_sigs_ok : SigsOK Generated.functionTable Spec.functionTable = true := generated_sigs_ok
theorem C12_generated_lex_ok : LexTablesOK Model.lexTables Spec.lexTables = true := generated_lex_ok

theorem C12_generated_writes_ok : WritesOK GeneratedWrites.writeSites = true := generated_writes_ok

section Machine
variable {T L V PC : Type} [DecidableEq T] [DecidableEq L] (S : Threads.Sys T L V PC)

/-- Every call returns what the same call returns when made alone: when writes are private (`WritesPrivate`) and a
    step depends only on shared locations and the call's own (`ReadsOwn`), under any
    schedule call `t`'s program counter and every location it owns are those
    of its solo run with the same number of steps. -/
theorem C12_schedule_independent (hw : Threads.WritesPrivate S) (hr : Threads.ReadsOwn S)
    (c : Threads.Conf T L V PC) (sched : List T) (t : T) :
    (S.run c sched).pcs t = (S.run c (List.replicate (sched.count t) t)).pcs t ∧
    ∀ l, S.owner l = some t → (S.run c sched).heap l = (S.run c (List.replicate (sched.count t) t)).heap l := by
  have h := Threads.schedule_independent S hw hr c sched t
  exact ⟨h.1, fun l hl => h.2 l (Or.inr hl)⟩

/-- When writes are private, the compiled expression, library state and the documents (the locations no call owns)
    hold after any schedule what they held before. -/
theorem C12_shared_unchanged (hw : Threads.WritesPrivate S) (c : Threads.Conf T L V PC) (sched : List T) (l : L)
    (hl : S.owner l = none) : (S.run c sched).heap l = c.heap l :=
  Threads.shared_unchanged S hw c sched l hl

/-- A location one call writes is neither shared nor another call's (`WritesPrivate` read once more; reads are not spoken of). -/
theorem C12_no_conflicting_access (hw : Threads.WritesPrivate S) (t u : T) (hne : t ≠ u) (h : L → V) (pc : PC)
    (lv : L × V) (hlv : lv ∈ (S.step t h pc).2) : ¬ (S.owner lv.1 = none ∨ S.owner lv.1 = some u) :=
  Threads.no_conflicting_access S hw t u hne h pc lv hlv
end Machine

variable {N : Type} [NumOps N]

/-- In the model the answer of a compiled search is a function of the compiled
    AST and the document; the state an operation sequence threads through does
    not enter it. -/
theorem C12_model_result_is_a_function (cfg : Config) (s1 s2 : State N) (h d : Nat)
    (hh : s1.handles.lookup h = s2.handles.lookup h) (hd : s1.docs.lookup d = s2.docs.lookup d) :
    (step cfg s1 (.searchC h d)).2 = (step cfg s2 (.searchC h d)).2 :=
  step_searchC_answer hh hd

/-! The machine instantiated, N goroutines calling `Search`:
shared memory holds documents and compiled expressions; goroutine `t` runs one
`Search` of document `docIx t` with compiled expression `astIx t` and writes the
answer into a slot it owns.  A call is ONE atomic step of this machine, so a schedule
only orders whole calls. -/

inductive Loc (T : Type) where
  | doc (i : Nat) | ast (i : Nat) | result (t : T)
  deriving DecidableEq

inductive Cell (N : Type) where
  | doc (v : Val N) | ast (n : Node N) | res (r : Option (Res (Val N)))

def searchSys {T : Type} (cfg : Config) (docIx astIx : T → Nat) : Threads.Sys T (Loc T) (Cell N) Bool where
  owner := fun l => match l with | .result t => some t | _ => none
  step := fun t h pc =>
    if pc then (true, [])
    else match h (.ast (astIx t)), h (.doc (docIx t)) with
      | .ast a, .doc d => (true, [(.result t, .res (some (searchCompiled cfg a d)))])
      | _, _ => (true, [(.result t, .res none)])

theorem searchSys_writesPrivate {T : Type} [DecidableEq T] (cfg : Config) (docIx astIx : T → Nat) :
    Threads.WritesPrivate (searchSys (N := N) cfg docIx astIx) := by
  intro t h pc lv hlv
  simp only [searchSys] at hlv ⊢
  split at hlv
  · simp at hlv
  · split at hlv <;> (simp at hlv; subst hlv; rfl)

theorem searchSys_readsOwn {T : Type} [DecidableEq T] (cfg : Config) (docIx astIx : T → Nat) :
    Threads.ReadsOwn (searchSys (N := N) cfg docIx astIx) := by
  intro t h h' pc hagree
  simp only [searchSys]
  rw [hagree (.ast (astIx t)) (Or.inl rfl), hagree (.doc (docIx t)) (Or.inl rfl)]

theorem searchSys_solo {T : Type} [DecidableEq T] (cfg : Config) (docIx astIx : T → Nat) (c : Threads.Conf T (Loc T) (Cell N) Bool)
    (t : T) (a : Node N) (d : Val N) (hpc : c.pcs t = false) (ha : c.heap (.ast (astIx t)) = .ast a) (hd : c.heap (.doc (docIx t)) = .doc d)
    (n : Nat) :
    ((searchSys cfg docIx astIx).run c (List.replicate (n + 1) t)).heap (.result t) = .res (some (searchCompiled cfg a d)) := by
  have h1 : ((searchSys cfg docIx astIx).exec c t).heap (.result t) = .res (some (searchCompiled cfg a d)) ∧
      ((searchSys cfg docIx astIx).exec c t).pcs t = true := by
    simp [Threads.Sys.exec, searchSys, hpc, ha, hd, Threads.write]
  rw [List.replicate_succ, Threads.Sys.run, List.foldl_cons]
  exact (congrArg (·.heap (Loc.result t))
    (Threads.run_replicate_of_idle (searchSys cfg docIx astIx) (by rw [h1.2]; rfl) n)).trans h1.1

/-- **Every order of the calls** (each an atomic step of `searchSys`): a goroutine that was scheduled at
    least once holds the answer of its own call made alone, whatever the other goroutines did in between. -/
theorem C12_concurrent_searches {T : Type} [DecidableEq T] (cfg : Config) (docIx astIx : T → Nat)
    (c : Threads.Conf T (Loc T) (Cell N) Bool) (sched : List T) (t : T) (a : Node N) (d : Val N)
    (hpc : c.pcs t = false) (ha : c.heap (.ast (astIx t)) = .ast a) (hd : c.heap (.doc (docIx t)) = .doc d)
    (hrun : t ∈ sched) :
    ((searchSys cfg docIx astIx).run c sched).heap (.result t) = .res (some (searchCompiled cfg a d)) := by
  have hagree := Threads.schedule_independent (searchSys cfg docIx astIx)
    (searchSys_writesPrivate cfg docIx astIx) (searchSys_readsOwn cfg docIx astIx) c sched t
  have hcount : 0 < sched.count t := List.count_pos_iff.mpr hrun
  obtain ⟨n, hn⟩ : ∃ n, sched.count t = n + 1 := ⟨sched.count t - 1, by omega⟩
  rw [hagree.2 (.result t) (Or.inr rfl), hn]
  exact searchSys_solo cfg docIx astIx c t a d hpc ha hd n

/-- … and the documents and compiled expressions are what they were. -/
theorem C12_concurrent_searches_leave_shared {T : Type} [DecidableEq T] (cfg : Config) (docIx astIx : T → Nat)
    (c : Threads.Conf T (Loc T) (Cell N) Bool) (sched : List T) (i : Nat) :
    ((searchSys cfg docIx astIx).run c sched).heap (.doc i) = c.heap (.doc i) ∧
    ((searchSys cfg docIx astIx).run c sched).heap (.ast i) = c.heap (.ast i) :=
  ⟨Threads.shared_unchanged _ (searchSys_writesPrivate cfg docIx astIx) c sched _ rfl,
   Threads.shared_unchanged _ (searchSys_writesPrivate cfg docIx astIx) c sched _ rfl⟩

end Jmes.Props
