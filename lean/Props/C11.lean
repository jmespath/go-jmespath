/-
  Props.C11 — evaluation errors propagate; never swallowed into null or a
  partial result (DESIGN.md §7, C11).

  `Evaluated ft root d sub d'` says: the specification requires, when `root`
  is evaluated against `d`, that `sub` be evaluated against `d'`.
-/
import Props.Tables
import Proofs.ErrFlow
import Proofs.EvalEq
import Proofs.SortKeys
namespace Jmes.Props
open Jmes Jmes.Interp

theorem C11_generated_table_ok : TableOK Generated.table = true := generated_table_ok
theorem C11_generated_sigs_ok : SigsOK Generated.functionTable Spec.functionTable = true := generated_sigs_ok
theorem C11_generated_lex_ok : LexTablesOK Model.lexTables Spec.lexTables = true := generated_lex_ok

/-- The regenerated error-flow facts (tools/errflow, go/ssa): at every call site of the package whose callee
    returns an error, the error is returned to the caller (as it is, or replaced by another error), except at
    the sites `Spec.allowed` lists (the sorters' `Less`, `to_number`'s ParseFloat, in-memory buffer writes,
    MustCompile's panic, the parser's token alternatives). -/
theorem C11_generated_errflow_ok : Spec.ErrFlowOK GeneratedErrFlow.sites = true := generated_errflow_ok

theorem C11_errors_are_returned_at_every_call_site (s : GeneratedErrFlow.Site) (h : s ∈ GeneratedErrFlow.sites) :
    s.status = .propagated ∨ s.status = .replaced ∨ Spec.allowed s = true := errflow_site s h

variable {N : Type} [NumOps N]

inductive Evaluated (ft : List FnEntry) : Node N → Val N → Node N → Val N → Prop where
  | here (n : Node N) (d : Val N) : Evaluated ft n d n d
  | cmpL {op l r d s d'} : Evaluated ft l d s d' → Evaluated ft (.cmp op l r) d s d'
  | cmpR {op l r d s d'} : Evaluated ft r d s d' → Evaluated ft (.cmp op l r) d s d'
  -- || and &&: the left operand always, the right one only when needed
  | orL {l r d s d'} : Evaluated ft l d s d' → Evaluated ft (.or l r) d s d'
  | orR {l r d s d' m} : eval ft l d = .ok m → m.isFalse = true → Evaluated ft r d s d' → Evaluated ft (.or l r) d s d'
  | andL {l r d s d'} : Evaluated ft l d s d' → Evaluated ft (.and l r) d s d'
  | andR {l r d s d' m} : eval ft l d = .ok m → m.isFalse = false → Evaluated ft r d s d' → Evaluated ft (.and l r) d s d'
  | not {e d s d'} : Evaluated ft e d s d' → Evaluated ft (.not e) d s d'
  | pipeL {l r d s d'} : Evaluated ft l d s d' → Evaluated ft (.pipe l r) d s d'
  | pipeR {l r d s d' v} : eval ft l d = .ok v → Evaluated ft r v s d' → Evaluated ft (.pipe l r) d s d'
  | subL {l r d s d'} : Evaluated ft l d s d' → Evaluated ft (.sub l r) d s d'
  | subR {l r d s d' v} : eval ft l d = .ok v → Evaluated ft r v s d' → Evaluated ft (.sub l r) d s d'
  | idxL {l r d s d'} : Evaluated ft l d s d' → Evaluated ft (.indexExpr l r) d s d'
  | idxR {l r d s d' v} : eval ft l d = .ok v → Evaluated ft r v s d' → Evaluated ft (.indexExpr l r) d s d'
  -- projections: the left side; the right side once per element of a matching left value
  | projL {l r d s d'} : Evaluated ft l d s d' → Evaluated ft (.proj l r) d s d'
  | projR {l r d s d' xs x} : eval ft l d = .ok (.arr xs) → x ∈ xs → Evaluated ft r x s d' → Evaluated ft (.proj l r) d s d'
  | vprojL {l r d s d'} : Evaluated ft l d s d' → Evaluated ft (.valueProj l r) d s d'
  | vprojR {l r d s d' kvs kv} : eval ft l d = .ok (.obj kvs) → kv ∈ kvs → Evaluated ft r kv.2 s d' →
      Evaluated ft (.valueProj l r) d s d'
  | flatten {e d s d'} : Evaluated ft e d s d' → Evaluated ft (.flatten e) d s d'
  | filterL {l r c d s d'} : Evaluated ft l d s d' → Evaluated ft (.filterProj l r c) d s d'
  | filterC {l r c d s d' xs x} : eval ft l d = .ok (.arr xs) → x ∈ xs → Evaluated ft c x s d' →
      Evaluated ft (.filterProj l r c) d s d'
  | filterR {l r c d s d' xs x cv} : eval ft l d = .ok (.arr xs) → x ∈ xs → eval ft c x = .ok cv → cv.isFalse = false →
      Evaluated ft r x s d' → Evaluated ft (.filterProj l r c) d s d'
  -- multi-select: every member, unless the current node is null
  | listM {xs d s d' x} : d ≠ .null → x ∈ xs → Evaluated ft x d s d' → Evaluated ft (.msList xs) d s d'
  | hashM {kvs d s d' kv} : d ≠ .null → kv ∈ kvs → Evaluated ft kv.2 d s d' → Evaluated ft (.msHash kvs) d s d'
  -- every (non-reference) function argument
  | arg {name args d s d' x} : (false, x) ∈ args → Evaluated ft x d s d' → Evaluated ft (.call name args) d s d'

def Fails {α} (r : Res α) : Prop := ∀ v, r ≠ .ok v

theorem fails_of_err {α} (e : Err) : Fails (.err e : Res α) := fun _ h => by cases h

omit [NumOps N] in
theorem projectLoop_fails (f : Val N → Res (Val N)) (xs : List (Val N)) (x : Val N) (hx : x ∈ xs) (hf : Fails (f x)) :
    Fails (projectLoop f xs) :=
  projectLoop_ne_ok hx hf

omit [NumOps N] in
theorem filterLoop_fails_cond (c r : Val N → Res (Val N)) (xs : List (Val N)) (x : Val N) (hx : x ∈ xs) (hf : Fails (c x)) :
    Fails (filterLoop c r xs) := by
  rw [filterLoop_eq_projectLoop]
  exact projectLoop_ne_ok hx (Res.bind_ne_ok_left hf)

omit [NumOps N] in
theorem filterLoop_fails_rhs (c r : Val N → Res (Val N)) (xs : List (Val N)) (x cv : Val N) (hx : x ∈ xs)
    (hc : c x = .ok cv) (hcv : cv.isFalse = false) (hf : Fails (r x)) : Fails (filterLoop c r xs) := by
  rw [filterLoop_eq_projectLoop]
  refine projectLoop_ne_ok hx (Res.bind_ne_ok_right hc ?_)
  rw [hcv]
  exact hf

theorem evalList_fails (ft : List FnEntry) (xs : List (Node N)) (d : Val N) (x : Node N) (hx : x ∈ xs)
    (hf : Fails (eval ft x d)) : Fails (evalList ft xs d) := by
  rw [evalList_eq]
  exact Res.mapM'_ne_ok hx hf

theorem evalKVs_fails (ft : List FnEntry) (xs : List (Bytes × Node N)) (d : Val N) (kv : Bytes × Node N) (hx : kv ∈ xs)
    (hf : Fails (eval ft kv.2 d)) : Fails (evalKVs ft xs d) := by
  rw [evalKVs_eq]
  exact Res.mapM'_ne_ok hx (Res.bind_ne_ok_left hf)

theorem evalArgs_fails (ft : List FnEntry) (xs : List (Bool × Node N)) (d : Val N) (x : Node N) (hx : (false, x) ∈ xs)
    (hf : Fails (eval ft x d)) : Fails (evalArgs ft xs d) := by
  rw [evalArgs_eq]
  exact Res.mapM'_ne_ok hx (Res.bind_ne_ok_left hf)

theorem fails_bind1 {α β} (r : Res α) (k : α → Res β) (hf : Fails r) :
    Fails (match r with | .ok v => k v | .err e => .err e | .panic p => .panic p) :=
  Res.bind_ne_ok_left (k := k) hf

theorem fails_projR (ft : List FnEntry) (l r : Node N) (d : Val N) (xs : List (Val N)) (x : Val N)
    (hl : eval ft l d = .ok (.arr xs)) (hx : x ∈ xs) (hf : Fails (eval ft r x)) : Fails (eval ft (.proj l r) d) := by
  rw [eval_proj]
  exact Res.bind_ne_ok_right hl (Res.bind_ne_ok_left (projectLoop_fails _ xs x hx hf))

theorem fails_vprojR (ft : List FnEntry) (l r : Node N) (d : Val N) (kvs : List (Bytes × Val N)) (kv : Bytes × Val N)
    (hl : eval ft l d = .ok (.obj kvs)) (hx : kv ∈ kvs) (hf : Fails (eval ft r kv.2)) :
    Fails (eval ft (.valueProj l r) d) := by
  rw [eval_valueProj]
  exact Res.bind_ne_ok_right hl
    (Res.bind_ne_ok_left (projectLoop_fails _ _ kv.2 (List.mem_map.mpr ⟨kv, hx, rfl⟩) hf))

theorem fails_filterC (ft : List FnEntry) (l r c : Node N) (d : Val N) (xs : List (Val N)) (x : Val N)
    (hl : eval ft l d = .ok (.arr xs)) (hx : x ∈ xs) (hf : Fails (eval ft c x)) :
    Fails (eval ft (.filterProj l r c) d) := by
  rw [eval_filterProj]
  exact Res.bind_ne_ok_right hl (Res.bind_ne_ok_left (filterLoop_fails_cond _ _ xs x hx hf))

theorem fails_filterR (ft : List FnEntry) (l r c : Node N) (d : Val N) (xs : List (Val N)) (x cv : Val N)
    (hl : eval ft l d = .ok (.arr xs)) (hx : x ∈ xs) (hc : eval ft c x = .ok cv) (hcv : cv.isFalse = false)
    (hf : Fails (eval ft r x)) : Fails (eval ft (.filterProj l r c) d) := by
  rw [eval_filterProj]
  exact Res.bind_ne_ok_right hl (Res.bind_ne_ok_left (filterLoop_fails_rhs _ _ xs x cv hx hc hcv hf))

theorem fails_listM (ft : List FnEntry) (xs : List (Node N)) (d : Val N) (x : Node N) (hd : d ≠ .null) (hx : x ∈ xs)
    (hf : Fails (eval ft x d)) : Fails (eval ft (.msList xs) d) := by
  rw [eval_msList]
  split
  · exact absurd rfl hd
  · exact Res.bind_ne_ok_left (evalList_fails ft xs d x hx hf)

theorem fails_hashM (ft : List FnEntry) (kvs : List (Bytes × Node N)) (d : Val N) (kv : Bytes × Node N) (hd : d ≠ .null)
    (hx : kv ∈ kvs) (hf : Fails (eval ft kv.2 d)) : Fails (eval ft (.msHash kvs) d) := by
  rw [eval_msHash]
  split
  · exact absurd rfl hd
  · exact Res.bind_ne_ok_left (evalKVs_fails ft kvs d kv hx hf)

theorem fails_arg (ft : List FnEntry) (name : Bytes) (args : List (Bool × Node N)) (d : Val N) (x : Node N)
    (hx : (false, x) ∈ args) (hf : Fails (eval ft x d)) : Fails (eval ft (.call name args) d) := by
  rw [eval_call]
  exact Res.bind_ne_ok_left (evalArgs_fails ft args d x hx hf)

/-- A sub-expression that the specification requires to be
    evaluated and that does not produce a value makes the whole Search fail —
    the error is never turned into null nor dropped from a collection. -/
theorem C11_errors_propagate (ft : List FnEntry) (root sub : Node N) (d d' : Val N)
    (hev : Evaluated ft root d sub d') (hf : Fails (eval ft sub d')) : Fails (eval ft root d) := by
  induction hev with
  | here n d => exact hf
  | cmpL _ ih => rw [eval_cmp]; exact Res.bind_ne_ok_left (ih hf)
  | cmpR _ ih => rw [eval_cmp]; exact Res.bind_ne_ok fun _ _ => Res.bind_ne_ok_left (ih hf)
  | orL _ ih => rw [eval_or]; exact Res.bind_ne_ok_left (ih hf)
  | orR hl hm _ ih => rw [eval_or]; refine Res.bind_ne_ok_right hl ?_; rw [if_pos hm]; exact ih hf
  | andL _ ih => rw [eval_and]; exact Res.bind_ne_ok_left (ih hf)
  | andR hl hm _ ih => rw [eval_and]; refine Res.bind_ne_ok_right hl ?_; rw [hm]; exact ih hf
  | not _ ih => rw [eval_not]; exact Res.bind_ne_ok_left (ih hf)
  | pipeL _ ih | subL _ ih | idxL _ ih =>
    simp only [eval_pipe, eval_sub, eval_indexExpr]; exact Res.bind_ne_ok_left (ih hf)
  | pipeR hl _ ih | subR hl _ ih | idxR hl _ ih =>
    simp only [eval_pipe, eval_sub, eval_indexExpr]; exact Res.bind_ne_ok_right hl (ih hf)
  | projL _ ih => rw [eval_proj]; exact Res.bind_ne_ok_left (ih hf)
  | projR hl hx _ ih => exact fails_projR ft _ _ _ _ _ hl hx (ih hf)
  | vprojL _ ih => rw [eval_valueProj]; exact Res.bind_ne_ok_left (ih hf)
  | vprojR hl hx _ ih => exact fails_vprojR ft _ _ _ _ _ hl hx (ih hf)
  | flatten _ ih => rw [eval_flatten]; exact Res.bind_ne_ok_left (ih hf)
  | filterL _ ih => rw [eval_filterProj]; exact Res.bind_ne_ok_left (ih hf)
  | filterC hl hx _ ih => exact fails_filterC ft _ _ _ _ _ _ hl hx (ih hf)
  | filterR hl hx hc hcv _ ih => exact fails_filterR ft _ _ _ _ _ _ _ hl hx hc hcv (ih hf)
  | listM hd hx _ ih => exact fails_listM ft _ _ _ hd hx (ih hf)
  | hashM hd hx _ ih => exact fails_hashM ft _ _ _ hd hx (ih hf)
  | arg hx _ ih => exact fails_arg ft _ _ _ _ hx (ih hf)

/-- With C05 (no panics) "fails" means "returns an error". -/
theorem C11_fails_is_error_when_no_panic {α} (r : Res α) (hf : Fails r) (hp : r.isPanic = false) : ∃ e, r = .err e := by
  cases r with
  | ok v => exact absurd rfl (hf v)
  | err e => exact ⟨e, rfl⟩
  | panic p => cases hp

/-- By-expression functions: a key/body expression that fails on some element
    makes `map` fail (`sort_by`: `C11_sort_by_key_error_any_position` below; `max_by` / `min_by`: C10, for a key
    expression that fails on the first element and for a key of the wrong kind at any position). -/
theorem C11_map_body_error_propagates (f : Val N → Res (Val N)) (xs : List (Val N)) (x : Val N) (hx : x ∈ xs)
    (hf : Fails (f x)) : Fails (Fn.mapLoop f xs) := by
  rw [Fn.mapLoop_eq]
  exact Res.mapM'_ne_ok hx hf

/-- `sort_by` over an array of ANY length: a key expression that fails on ANY element — wherever it sits, however many elements
    the sorting routine would compare before reaching it — makes the call fail (given a number key first and no panicking key). -/
theorem C11_sort_by_key_error_any_position {N : Type} [NumOps N] (f : Val N → Res (Val N)) (x : Val N) (rest : List (Val N)) (n : N) (y : Val N) (e : Err)
    (h0 : f x = .ok (.num n)) (hy : y ∈ rest) (h1 : f y = .err e)
    (hp : ∀ z ∈ rest, ∀ p, f z ≠ .panic p) : ∃ e', Fn.sortBy f (x :: rest) = .err e' := by
  have hnone : Fn.keysNum f rest = .ok none :=
    Fn.keysNum_eq f rest ▸ Fn.keysOf_none Fn.numOf f hy (h1 ▸ rfl) hp
  cases rest with  -- `sortBy` collects the keys of the tail only when there is a second element
  | nil => cases hy
  | cons r rs => simp only [Fn.sortBy, h0, hnone]; exact ⟨_, rfl⟩

/-! Non-vacuity: `a("a")[]`, a failing call under a flatten projection (the swallowed-error shape), is covered. -/
example (ft : List FnEntry) (d : Val Int) :
    Evaluated ft (.proj (.flatten (.call [0x61] [(false, .literal (.str [0x61]))])) .identity) d
      (.call [0x61] [(false, .literal (.str [0x61]))]) d :=
  .projL (.flatten (.here _ _))

end Jmes.Props
