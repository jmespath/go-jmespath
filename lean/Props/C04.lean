/-
  Props.C04 — Compile accepts exactly the sentences of the JMESPath grammar
  (DESIGN.md §7, C04).

  The grammar is `Spec.G` (Spec/Grammar.lean), an inductive predicate over the lexer's token
  lists: `G false` is the ABNF of the specification, `G true` the accepted language, which
  differs in two marked places, both recorded findings: the lenient production "a multi-select
  list directly after an open projection" (D24) and the int64 range of the numbers in `[n]` and
  slices (D22).  Of a token's text `G` asks only that a literal's is accepted by `Json.decode`
  and, in `G true`, a number's by `atoi`: `G false` takes any number token, also the `-` the
  lexer makes of `[-]`.

  Soundness (whatever Compile accepts is a sentence of `G true`: no malformed expression is
  compiled into something that only fails later) is an induction over the relational description
  `R` of the parser, which is sound AND complete for the parser model (`R_sound`, `R_complete`)
  for every parser table: Proofs/Grammar.lean.  Completeness is an induction over the ambiguous
  grammar's derivations against a stack-of-pending-loops description of the Pratt parser, with no
  bound on size or nesting: Proofs/GrammarComplete.lean.  The printer-based statements say that
  what the printer writes is accepted; WHICH tree it denotes is C03's business
  (`C03_printer_round_trip`, `C03_bytes_round_trip`).
-/
import Props.Bytes
import Proofs.GrammarComplete
namespace Jmes.Props
open Jmes Jmes.Parser Jmes.Spec

theorem C04_generated_table_ok : TableOK Generated.table = true := generated_table_ok
theorem C04_generated_sigs_ok : SigsOK Generated.functionTable Spec.functionTable = true := generated_sigs_ok
theorem C04_generated_lex_ok : LexTablesOK Model.lexTables Spec.lexTables = true := generated_lex_ok

variable {N : Type} [NumOps N]

/-- Soundness at token level, for ANY parser table: an accepted token list begins with
    an expression of `G true` followed by an end-of-input token (that nothing comes after
    that token is the lexer's doing: `C04_compiled_is_grammatical`). -/
theorem C04_accepted_is_grammatical (tbl : ParserTable) (toks : List Token) (ast : Node N)
    (h : parseTokens tbl toks = .ok ast) :
    ∃ s e rest, toks = s ++ e :: rest ∧ e.ty = .eof ∧ G N true .expr s := by
  obtain ⟨p1, t, rest, hR, hafter, ht⟩ := R_of_parseTokens_ok tbl toks ast h
  obtain ⟨seg, hseg, hg, _⟩ := R_grammatical tbl hR
  exact ⟨seg, t, rest, by rw [← hafter]; exact hseg.after, ht, hg⟩

theorem eof_last {seg pre rest : List Token} {t e : Token} (h : seg ++ t :: rest = pre ++ [e])
    (hpre : ∀ x ∈ pre, x.ty ≠ .eof) (ht : t.ty = .eof) : seg = pre ∧ rest = [] :=
  last_of_append_cons h hpre ht

theorem lex_tables_safe : Lexer.TablesSafe Model.lexTables := generated_lex_safe

/-- Soundness for `Compile` on bytes (the tables regenerated from /repo): the
    expression tokenizes, and its tokens are a sentence of `G true`. -/
theorem C04_compiled_is_grammatical (expr : Bytes) (ast : Node N)
    (h : (Api.compile Model.cfg expr : Res (Node N)) = .ok ast) :
    ∃ toks, Lexer.tokenize Model.lexTables expr = .ok toks ∧ Sentence N true toks := by
  rw [Api.compile_eq_parseWith] at h
  unfold parseWith at h
  obtain ⟨toks, htok, hp⟩ := Res.bind_eq_ok.mp h
  obtain ⟨s, e, rest, rfl, he, hg⟩ := C04_accepted_is_grammatical _ toks ast hp
  obtain ⟨⟨pre, hpre, hne⟩, _⟩ : Lexer.TokensOK expr.length _ := htok ▸ Lexer.tokenize_ok Model.lexTables lex_tables_safe expr
  obtain ⟨rfl, rfl⟩ := eof_last hpre hne he
  exact ⟨_, htok, s, e, rfl, he, hg⟩

/-- An expression that does not compile is rejected by `Search` with the
    compile error; nothing is evaluated. -/
theorem C04_rejection_precedes_evaluation (expr : Bytes) (e : Err) (doc : Val N)
    (h : (Api.compile Model.cfg expr : Res (Node N)) = .err e) :
    Api.search Model.cfg expr doc = .err e := by
  simp only [Api.search, h]

/-- Completeness on printed forms: every concrete syntax tree of `Spec.PE`
    (all operators, calls, multi-selects, the five projection forms with their
    right-hand sides, explicit parentheses anywhere) that meets the side conditions
    `Parser.wf` (on token texts and on what stands after a dot, after a projection and
    first in a list) is accepted when written by the printer. -/
theorem C04_printed_sentences_compile_partial (e : PE N) (hw : Parser.wf e) :
    ∃ ast : Node N, parseTokens Generated.table (ppE e ++ [eofTok 0]) = .ok ast :=
  ⟨node e, round_trip_generated e hw⟩

def isOk {α} : Res α → Bool
  | .ok _ => true
  | _ => false

/-- The lenient production is really used by the parser (finding D24): the
    tokens of `a[*][b]` are accepted. -/
example : isOk (parseTokens (N := Int) Spec.table
    [tk .uident (b "a"), tk .lbracket, tk .star, tk .rbracket, tk .lbracket, tk .uident (b "b"), tk .rbracket, eofTok 0]) = true := by
  decide +kernel

open Jmes.Lexer in
/-- Completeness on printed forms, from bytes: every rendering of a printed
    concrete syntax tree (`Parser.wf` as before) compiles. -/
theorem C04_written_sentences_compile_partial (e : PE N) (hw : Parser.wf e) (keys : List (TokType × Bytes)) (s : Bytes)
    (hk : KeysOf (ppE e) keys) (hr : Rendered keys s) : ∃ ast : Node N, Api.compile Model.cfg s = .ok ast :=
  ⟨node e, compile_printed hw hk hr⟩

/-- **Every grammatical token list is accepted** (table regenerated from /repo):
    a sentence of the published grammar whose integer literals fit int64 parses, when it is
    shaped as the lexer's output (`TokensOK`: one end-of-input token, of empty text, and no
    position beyond its). -/
theorem C04_grammatical_is_accepted (toks : List Token) (total : Nat) (hs : Sentence N false toks) (hnum : NumOK toks)
    (htoks : Lexer.TokensOK total toks) : ∃ ast : Node N, parseTokens Generated.table toks = .ok ast := by
  rw [parseTokens_generated]
  exact sentence_parses hs hnum htoks

/-- … and from bytes: an expression whose tokens are such a sentence compiles. -/
theorem C04_grammatical_compiles (expr : Bytes) (toks : List Token)
    (htok : Lexer.tokenize Model.lexTables expr = .ok toks) (hs : Sentence N false toks) (hnum : NumOK toks) :
    ∃ ast : Node N, Api.compile Model.cfg expr = .ok ast := by
  rw [Api.compile_of_tokens generated_same htok]
  exact sentence_parses hs hnum (htok ▸ Lexer.tokenize_ok Model.lexTables lex_tables_safe expr)

/-- **Compile accepts exactly the sentences of `G true`** — the published grammar plus the lenient
    production (D24), with the numbers of `[n]` and slices in the int64 range (D22). -/
theorem C04_accepts_iff (expr : Bytes) (toks : List Token)
    (htok : Lexer.tokenize Model.lexTables expr = .ok toks) :
    (∃ ast : Node N, Api.compile Model.cfg expr = .ok ast) ↔ Sentence N true toks := by
  constructor
  · rintro ⟨ast, h⟩
    obtain ⟨_, htok', hs⟩ := C04_compiled_is_grammatical expr ast h
    cases htok.symm.trans htok'
    exact hs
  · intro hs
    rw [Api.compile_of_tokens generated_same htok]
    exact sentence_parses_exact hs (htok ▸ Lexer.tokenize_ok Model.lexTables lex_tables_safe expr)

/-- The published grammar with in-range numbers is a sub-language of the accepted one. -/
theorem C04_published_sub_accepted (toks : List Token) (hs : Sentence N false toks) (hnum : NumOK toks) :
    Sentence N true toks := by
  obtain ⟨s, e, rfl, he, hg⟩ := hs
  exact ⟨s, e, rfl, he, G_mono hg hnum.left⟩

/-- The range condition cannot be dropped (finding D22): `[9223372036854775808]` is a sentence and is rejected. -/
theorem C04_number_range_is_needed :
    let big : Bytes := [0x39,0x32,0x32,0x33,0x33,0x37,0x32,0x30,0x33,0x36,0x38,0x35,0x34,0x37,0x37,0x35,0x38,0x30,0x38]
    let toks : List Token := [tk .lbracket, tk .number big, tk .rbracket, eofTok 0]
    Sentence Int false toks ∧ isOk (parseTokens (N := Int) Spec.table toks) = false := by
  refine ⟨⟨[tk .lbracket, tk .number _, tk .rbracket], eofTok 0, rfl, rfl, ?_⟩, by decide +kernel⟩
  exact G.index0 (G.brNumber rfl rfl rfl (fun h => by cases h))

/-- Non-vacuity: the tokens of `a.b[0]` (positions 0) meet the hypotheses `NumOK` (the end-of-input
    token, left out here, is no number) and `Sentence` of `C04_grammatical_is_accepted`. -/
example : NumOK [tk .uident (b "a"), tk .dot, tk .uident (b "b"), tk .lbracket, tk .number [0x30], tk .rbracket] :=
  .cons_ty rfl (.cons_ty rfl (.cons_ty rfl (.cons_ty rfl (.cons (fun _ => by decide) (.cons_ty rfl .nil)))))

example : Sentence Int false
    [tk .uident (b "a"), tk .dot, tk .uident (b "b"), tk .lbracket, tk .number [0x30], tk .rbracket, eofTok 0] :=
  ⟨[tk .uident (b "a"), tk .dot, tk .uident (b "b"), tk .lbracket, tk .number [0x30], tk .rbracket], eofTok 0, rfl, rfl,
    G.index (G.sub (G.ident (Or.inl rfl)) rfl (G.dotIdent (Or.inl rfl))) (G.brNumber rfl rfl rfl (fun h => by cases h))⟩

end Jmes.Props
