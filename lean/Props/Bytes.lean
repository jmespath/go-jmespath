/-
  Props.Bytes — the byte-level link of the properties that speak of written expressions: the character tables
  regenerated from /repo classify ASCII as the lexer theorems assume (`generated_tables_ascii`, decide), hence a
  rendering of tokens — each token in any of its spellings, any white space between them — compiles to what the
  parser makes of those tokens.
-/
import Props.Tables
import Proofs.Bytes
import Proofs.Printer
import Proofs.ApiGlue
namespace Jmes.Props
open Jmes.Parser Jmes.Lexer Jmes.Spec

theorem generated_tables_ascii : TablesAsciiB Model.lexTables = true := by decide +kernel

variable {N : Type} [NumOps N]

theorem compile_eq_spec (s : Bytes) :
    (Api.compile Model.cfg s : Res (Node N)) = parseWith Model.lexTables Spec.table s := by
  rw [Api.compile_eq_parseWith]
  exact parseWith_congr generated_same Model.lexTables s

theorem compile_rendered {toks : List Token} {keys : List (TokType × Bytes)} {s : Bytes} {ast : Node N}
    (hk : KeysOf toks keys) (hr : Rendered keys s)
    (hp : parseTokens Generated.table (toks ++ [eofTok 0]) = .ok ast) : Api.compile Model.cfg s = .ok ast := by
  rw [parseTokens_generated] at hp
  rw [compile_eq_spec]
  exact parseWith_rendered (tablesAscii_of_bool generated_tables_ascii) generated_lex_safe hk hr rfl hp

theorem round_trip_generated (e : PE N) (hw : Parser.wf e) :
    parseTokens Generated.table (ppE e ++ [eofTok 0]) = .ok (node e) := by
  rw [parseTokens_generated]; exact round_trip_spec e hw

theorem compile_printed {e : PE N} (hw : Parser.wf e) {keys : List (TokType × Bytes)} {s : Bytes}
    (hk : KeysOf (ppE e) keys) (hr : Rendered keys s) : Api.compile Model.cfg s = .ok (node e) :=
  compile_rendered hk hr (round_trip_generated e hw)

theorem compile_atom {e : PE N} (hw : Parser.wf e) {ty : TokType} {v text : Bytes} (he : ppE e = [tk ty v])
    (hs : Spell ty v text) : Api.compile Model.cfg text = .ok (node e) :=
  compile_printed hw (he ▸ KeysOf.cons rfl (fun _ => rfl) KeysOf.nil) (Rendered.one hs)

theorem search_atom {e : PE N} (hw : Parser.wf e) {ty : TokType} {v text : Bytes} (he : ppE e = [tk ty v])
    (hs : Spell ty v text) (d : Val N) : Api.search Model.cfg text d = Interp.eval Model.cfg.fns (node e) d := by
  simp only [Api.search, compile_atom hw he hs]

theorem compile_same_tokens {keys : List (TokType × Bytes)} {s1 s2 : Bytes} {ast : Node N}
    (h1 : Rendered keys s1) (h2 : Rendered keys s2) (hp : Api.compile Model.cfg s1 = .ok ast) :
    Api.compile Model.cfg s2 = .ok ast := by
  rw [compile_eq_spec] at hp ⊢
  exact parseWith_same_tokens (tablesAscii_of_bool generated_tables_ascii) generated_lex_safe h1 h2 hp

end Jmes.Props
