/-
  Props.C03 — operator precedence, associativity and projection scope follow
  the JMESPath rules (DESIGN.md §7, C03).

  (1) The table regenerated from /repo satisfies the order facts of the rules
      (`TableOK`), and (2) any table satisfying them parses every token list
      exactly like the specification's table (`Spec.table`) — so the parser in
      /repo IS the specification-table parser; (3) theorems about that parser
      (Proofs/Printer, Proofs/Compose) state the rules themselves.
-/
import Proofs.Compose
import Props.C15
namespace Jmes.Props
open Jmes Jmes.Parser

/-- (1) pipe < or < and < comparators (all equal) < flatten < [projection stop] ≤
    star < filter < dot < not < brace < bracket < call; terminators 0; every
    constant handed to a parse function is the power the rules prescribe. -/
theorem C03_generated_table_ok : TableOK Generated.table = true := generated_table_ok
theorem C03_generated_sigs_ok : SigsOK Generated.functionTable Spec.functionTable = true := generated_sigs_ok
theorem C03_generated_lex_ok : LexTablesOK Model.lexTables Spec.lexTables = true := generated_lex_ok

variable {N : Type} [NumOps N]

theorem C03_order_facts_determine_the_parser (tbl : ParserTable) (h : TableOK tbl = true) (toks : List Token) :
    parseTokens (N := N) tbl toks = parseTokens Spec.table toks :=
  parseTokens_congr (sameDecisions_of_tableOK tbl Spec.table h spec_table_ok) toks

/-- So the parser found in /repo is the specification-table parser: on every byte string, `Compile`
    returns what that parser returns (same AST, same error, same offset). -/
theorem C03_repo_parser_is_spec_parser (expr : Bytes) :
    (Api.compile Model.cfg expr : Res (Node N)) = parseWith Model.lexTables Spec.table expr :=
  compile_eq_spec expr

theorem C03_equal_parse_equal_result (e1 e2 : Bytes) (ast : Node N)
    (h1 : (Api.compile Model.cfg e1 : Res (Node N)) = .ok ast) (h2 : (Api.compile Model.cfg e2 : Res (Node N)) = .ok ast)
    (doc : Val N) : Api.search Model.cfg e1 doc = Api.search Model.cfg e2 doc := by
  simp only [Api.search, h1, h2]

/-! (3) The precedence and projection-scope rules themselves: the parser inverts the printer.

`Spec.PE` is the concrete syntax tree of an expression — every operator, calls, multi-selects, explicit
parentheses anywhere, the five projection forms with their right-hand sides, nested without bound — and
`Spec.ppE e` writes it with parentheses wherever the JMESPath rules require them (and around a `!` directly under a `!`,
where they do not: `!(!a)`); Spec/Printer.lean states the rules (levels, left associativity, how far a projection's
right-hand side extends).

The theorem: the parser of /repo (its regenerated table) maps the printed tokens to the AST `e` denotes, for every
`e` that meets the side conditions `Parser.wf` (without them it is false: the list whose one member is `*` is written
`[`, `*`, `]`, which reads as the projection `[*]`); so unparenthesised expressions group exactly as
the rules dictate, and explicit parentheses leave no trace (`node_erase`). -/

open Jmes.Spec in
theorem C03_printer_round_trip (e : PE N) (hw : Parser.wf e) :
    parseTokens Generated.table (ppE e ++ [eofTok 0]) = .ok (node e) :=
  round_trip_generated e hw

/-- Redundant parentheses never change the parse (hence, by
    `C03_equal_parse_equal_result`, never the meaning): a printed expression with
    explicit parentheses anywhere parses to the AST of the expression with all
    of them erased (the printer re-inserts those it needs), when both meet `Parser.wf`. -/
theorem C03_redundant_parentheses (e : Spec.PE N) (hw : Parser.wf e) (hw' : Parser.wf (Spec.erase e)) :
    parseTokens (N := N) Generated.table (Spec.ppE e ++ [eofTok 0]) =
      parseTokens Generated.table (Spec.ppE (Spec.erase e) ++ [eofTok 0]) := by
  rw [C03_printer_round_trip e hw, C03_printer_round_trip _ hw', node_erase]

section Examples
open Jmes.Spec
private def a : PE N := .ident (b "a")
private def b' : PE N := .ident (b "b")
private def c : PE N := .ident (b "c")
private def t (ty : TokType) : Token := tk ty
private def i (s : String) : Token := tk .uident (b s)

-- evaluations of `ppE`, so that the theorem above can be read concretely
/-- `a || b || c` is `(a || b) || c` … -/
example : ppE (.bin .or (.bin .or (a (N := N)) b') c) = [i "a", t .or, i "b", t .or, i "c"] := rfl
/-- … and `a || (b || c)` needs its parentheses. -/
example : ppE (.bin .or (a (N := N)) (.bin .or b' c)) = [i "a", t .or, t .lparen, i "b", t .or, i "c", t .rparen] := rfl
/-- `a || b && c` is `a || (b && c)`; `(a || b) && c` needs its parentheses. -/
example : ppE (.bin .or (a (N := N)) (.bin .and b' c)) = [i "a", t .or, i "b", t .and, i "c"] := rfl
example : ppE (.bin .and (.bin .or (a (N := N)) b') c) = [t .lparen, i "a", t .or, i "b", t .rparen, t .and, i "c"] := rfl
/-- `!a == b` is `(!a) == b`; `a.b | c` is `(a.b) | c`; `!(a.b)` needs its parentheses (`!a.b` is `(!a).b`). -/
example : ppE (.bin (.cmp .eq) (.not (a (N := N))) b') = [t .not, i "a", t .eq, i "b"] := rfl
example : ppE (.bin .pipe (.sub (a (N := N)) b') c) = [i "a", t .dot, i "b", t .pipe, i "c"] := rfl
example : ppE (.not (.sub (a (N := N)) b')) = [t .not, t .lparen, i "a", t .dot, i "b", t .rparen] := rfl
/-- projection scope: `a[*].b.c` applies `b.c` to every element … -/
example : ppE (.bstar (a (N := N)) (.dot (.sub b' c))) = [i "a", t .lbracket, t .star, t .rbracket, t .dot, i "b", t .dot, i "c"] := rfl
/-- … whereas `.c` applied to the projection's result needs parentheses: `(a[*].b).c`; -/
example : ppE (.sub (.bstar (a (N := N)) (.dot b')) c) =
    [t .lparen, i "a", t .lbracket, t .star, t .rbracket, t .dot, i "b", t .rparen, t .dot, i "c"] := rfl
/-- a pipe and a flatten end the right-hand side: `a[*].b | c`, `a[*].b[]`; -/
example : ppE (.bin .pipe (.bstar (a (N := N)) (.dot b')) c) = [i "a", t .lbracket, t .star, t .rbracket, t .dot, i "b", t .pipe, i "c"] := rfl
example : ppE (.flat (.bstar (a (N := N)) (.dot b')) .none) = [i "a", t .lbracket, t .star, t .rbracket, t .dot, i "b", t .flatten] := rfl
/-- so does `||`: `a[?b].c || c`. -/
example : ppE (.bin .or (.filt (a (N := N)) b' (.dot c)) c) =
    [i "a", t .filter, i "b", t .rbracket, t .dot, i "c", t .or, i "c"] := rfl
/-- the hypotheses of the theorem are satisfiable: -/
example : Parser.wf (.bin .or (.bin .or (a (N := N)) b') (.sub c (.call (b "f") [(true, a), (false, .list b' [c])]))) :=
  ⟨⟨trivial, trivial⟩, rfl, trivial, trivial, ⟨nofun, trivial, trivial, trivial⟩, trivial⟩
example : Parser.wf (.flat (.bstar (a (N := N)) (.dot (.sub b' c))) (.br (.idx0 [0x30] 0))) :=
  ⟨⟨trivial, rfl, rfl, trivial, trivial⟩, rfl, show atoi [0x30] = some 0 by decide⟩
end Examples

/-! `Lexer.Rendered keys s`: the byte string `s` writes the tokens `keys`, each in
one of its spellings (`Lexer.Spell`), with arbitrary runs of white space before,
between and after them; tokens touch only where they cannot fuse. -/

open Jmes.Spec Jmes.Lexer in
/-- **The written expression compiles to its AST**: any rendering of the printed
    tokens of `e` — with any white space — compiles to `node e`, for `e` meeting `Parser.wf`. -/
theorem C03_bytes_round_trip (e : PE N) (hw : Parser.wf e) (keys : List (TokType × Bytes)) (s : Bytes)
    (hk : KeysOf (ppE e) keys) (hr : Rendered keys s) : Api.compile Model.cfg s = .ok (node e) :=
  compile_printed hw hk hr

open Jmes.Lexer in
/-- **White space between tokens never changes the meaning**: two byte strings
    that render the same tokens compile to the same AST (then
    `C03_equal_parse_equal_result`: same result on every document). -/
theorem C03_white_space_insignificant (keys : List (TokType × Bytes)) (s1 s2 : Bytes) (ast : Node N)
    (h1 : Rendered keys s1) (h2 : Rendered keys s2) (hp : Api.compile Model.cfg s1 = .ok ast) :
    Api.compile Model.cfg s2 = .ok ast :=
  compile_same_tokens h1 h2 hp

open Jmes.Lexer in
/-- non-vacuity: `a . b` and `a.b` both render the tokens a, dot, b -/
example : Rendered [(.uident, [0x61]), (.dot, [0x2E]), (.uident, [0x62])] [0x61, 0x20, 0x2E, 0x20, 0x62] ∧
    Rendered [(.uident, [0x61]), (.dot, [0x2E]), (.uident, [0x62])] [0x61, 0x2E, 0x62] := by
  constructor
  · exact Rendered.cons [] .uident [0x61] [0x61] _ _ (by simp) (.ident 0x61 [] (by decide) (by simp))
      (Rendered.cons [0x20] .dot [0x2E] [0x2E] _ _ (by decide) (.basic 0x2E .dot (by decide))
        (Rendered.cons [0x20] .uident [0x62] [0x62] _ _ (by decide) (.ident 0x62 [] (by decide) (by simp))
          (Rendered.nil [] (by simp)) trivial) trivial) (by decide : isIdTrail 0x20 = false)
  · exact Rendered.cons [] .uident [0x61] [0x61] _ _ (by simp) (.ident 0x61 [] (by decide) (by simp))
      (Rendered.cons [] .dot [0x2E] [0x2E] _ _ (by simp) (.basic 0x2E .dot (by decide))
        (Rendered.cons [] .uident [0x62] [0x62] _ _ (by simp) (.ident 0x62 [] (by decide) (by simp))
          (Rendered.nil [] (by simp)) trivial) trivial) (by decide : isIdTrail 0x2E = false)

/-- **Redundant parentheses around ANY expression**, at token level: if the tokens `A` and an end-of-input token parse
    to `a`, then `(`, the same tokens `A`, `)` and an end-of-input token parse to the same AST `a` (hence evaluate
    identically on every document), provided that list is shaped as the lexer's output (`TokensOK`).  That the bytes of
    `(A)` lex to these tokens is not part of the statement. -/
theorem C03_parentheses_around_any_expression (As : List Token) (eA eB l r : Token) (a : Node N) (total : Nat)
    (heA : eA.ty = .eof) (heB : eB.ty = .eof) (hl : l.ty = .lparen) (hr : r.ty = .rparen)
    (hnA : ∀ t ∈ As, t.ty ≠ .eof) (hA : parseTokens Generated.table (As ++ [eA]) = .ok a)
    (htoks : Lexer.TokensOK total (l :: (As ++ [r, eB]))) :
    parseTokens Generated.table (l :: (As ++ [r, eB])) = .ok a := by
  rw [parseTokens_generated] at hA ⊢
  exact parseTokens_ok_of_R rfl (paren_of_parse heA heB hl hr (parse_consumes_all heA hnA hA)) ⟨eB, [], rfl, heB⟩ htoks

def parenN (n : Nat) (l r : Token) (As : List Token) : List Token := List.replicate n l ++ As ++ List.replicate n r

theorem parenN_succ (n : Nat) (l r : Token) (As : List Token) :
    parenN (n + 1) l r As = l :: (parenN n l r As ++ [r]) := by
  unfold parenN
  rw [List.replicate_succ, List.replicate_succ']
  simp [List.append_assoc]

/-- **No depth limit** (token level, as above): parentheses nested to ANY depth `n` around tokens that parse to `a`
    parse to `a` as well — the grammar has no nesting bound and neither has the parser (the model's fuel
    always suffices).  An implementation limit on nesting depth contradicts this theorem at its boundary. -/
theorem C03_parentheses_to_any_depth (n : Nat) (As : List Token) (l r : Token) (a : Node N) (total : Nat)
    (hl : l.ty = .lparen) (hr : r.ty = .rparen) (hlp : l.pos ≤ total) (hrp : r.pos ≤ total)
    (hnA : ∀ t ∈ As, t.ty ≠ .eof) (hpA : ∀ t ∈ As, t.pos ≤ total)
    (hA : parseTokens Generated.table (As ++ [⟨.eof, [], total⟩]) = .ok a) :
    parseTokens Generated.table (parenN n l r As ++ [⟨.eof, [], total⟩]) = .ok a := by
  have mem : ∀ (P : Token → Prop), P l → P r → (∀ t ∈ As, P t) → ∀ n, ∀ t ∈ parenN n l r As, P t := by
    intro P pl pr pA n t ht
    simp only [parenN, List.mem_append, List.mem_replicate] at ht
    rcases ht with (⟨_, rfl⟩ | h) | ⟨_, rfl⟩
    · exact pl
    · exact pA t h
    · exact pr
  have hne := mem (·.ty ≠ .eof) (by rw [hl]; decide) (by rw [hr]; decide) hnA
  have htoks := fun n => Lexer.tokensOK_of_pre (hne n) (mem (·.pos ≤ total) hlp hrp hpA n)
  induction n with
  | zero => simpa [parenN] using hA
  | succ n ih =>
    have := C03_parentheses_around_any_expression (parenN n l r As) ⟨.eof, [], total⟩ ⟨.eof, [], total⟩ l r a total
      rfl rfl hl hr (hne n) ih (by simpa [parenN_succ] using htoks (n + 1))
    rw [parenN_succ]
    simpa [List.append_assoc] using this

/-- **An expression is read the same way wherever an expression is expected up to a closing token**:
    if `A` compiles to `a`, then at level 0 in any surroundings — after any consumed tokens, in front of
    `)`, `]`, `}`, `,` or the end of input: inside parentheses, as a member of a multi-select list or
    hash, as a function argument, as a filter condition — the parser reads exactly `A` and builds `a`
    (`R Spec.table (.expr 0 p) (.node a p')`: `parseExpression(0)` of the specification-table parser, which /repo's
    is by (2), started in state `p` returns `a` in state `p'`). -/
theorem C03_member_is_read_as_alone (As : List Token) (eA : Token) (a : Node N)
    (heA : eA.ty = .eof) (hnA : ∀ t ∈ As, t.ty ≠ .eof) (hA : parseTokens Spec.table (As ++ [eA]) = .ok a)
    (bef : List Token) (f : Token) (rest : List Token) (hf : followerOK f.ty = true) (hpow : Parser.specPow f.ty = 0) :
    R Spec.table (.expr 0 ⟨bef, As ++ f :: rest⟩) (.node a ⟨As.reverse ++ bef, f :: rest⟩) :=
  expr0_in_context heA (parse_consumes_all heA hnA hA) bef f rest hf hpow

end Jmes.Props
