/-
  Props.C10 — ill-typed, wrong-arity and unknown function calls are errors,
  never panics (DESIGN.md §7, C10).  The statements are about `Fn.callFunction` with the table REGENERATED
  from /repo (`Generated.functionTable`); what is proved of the specification's table is carried over
  through `generated_sigs_ok`.
-/
import Props.Tables
import Proofs.ErrFlow
import Proofs.FunctionsSafe
import Proofs.WellTyped
import Proofs.SortKeys
namespace Jmes.Props
open Jmes Jmes.Fn

theorem C10_generated_table_ok : TableOK Generated.table = true := generated_table_ok
/-- The regenerated function table has exactly the specification's 26 names,
    each wired to its own handler, with the specification's signature. -/
theorem C10_generated_sigs_ok : SigsOK Generated.functionTable Spec.functionTable = true := generated_sigs_ok
theorem C10_generated_lex_ok : LexTablesOK Model.lexTables Spec.lexTables = true := generated_lex_ok

/-- The regenerated error-flow facts: at every call site of the package the callee's error is returned to the caller,
    up to the exceptions of `Spec.allowed` (spelled out at `C11_generated_errflow_ok`). -/
theorem C10_generated_errflow_ok : Spec.ErrFlowOK GeneratedErrFlow.sites = true := generated_errflow_ok

theorem C10_errors_are_returned_at_every_call_site (s : GeneratedErrFlow.Site) (h : s ∈ GeneratedErrFlow.sites) :
    s.status = .propagated ∨ s.status = .replaced ∨ Spec.allowed s = true := errflow_site s h

variable {N : Type} [NumOps N]

/-- The library's `CallFunction` is the specification table's. -/
theorem C10_call_is_spec_call (name : Bytes) (args : List (Arg N)) :
    callFunction Generated.functionTable name args = callFunction Spec.functionTable name args :=
  callFunction_congr _ _ generated_sigs_ok name args

def sigOf (name : Bytes) : Option (List ArgSpec) :=
  (Spec.functionTable.find? (fun e => keyBytes e.key = name)).map (·.args)

/-- An unknown function name is an error. -/
theorem C10_unknown_function (name : Bytes) (args : List (Arg N)) (h : sigOf name = none) :
    ∃ e, callFunction Generated.functionTable name args = .err e := by
  rw [C10_call_is_spec_call]
  unfold sigOf at h
  unfold callFunction
  split
  · exact ⟨_, rfl⟩
  · rename_i e hf
    rw [hf] at h
    cases h

/-- A known function called with the wrong number of arguments, or with any
    argument — in any position, variadic ones included, an expression reference
    where a value is required or a value where a reference is required —
    outside its declared types, is an error: never a value, never a panic. -/
theorem C10_ill_typed_call_is_error (name : Bytes) (sig : List ArgSpec) (args : List (Arg N))
    (hs : sigOf name = some sig) (hw : ¬ WellTyped sig args) :
    ∃ e, callFunction Generated.functionTable name args = .err e := by
  rw [C10_call_is_spec_call]
  unfold sigOf at hs
  unfold callFunction
  split
  · exact ⟨_, rfl⟩
  · rename_i e hf
    rw [hf] at hs
    cases hs
    obtain ⟨er, her⟩ := (resolveArgs_ok_or_err e args).resolve_left fun h => hw (resolveArgs_ok_iff.mp h)
    rw [her]
    exact ⟨er, rfl⟩

/-- No call panics, whatever the name and the arguments (given that the
    expression references among them do not: see C05 for the interpreter). -/
theorem C10_calls_never_panic (name : Bytes) (args : List (Arg N)) (hs : RefsSafe args) :
    (callFunction Generated.functionTable name args).isPanic = false := by
  rw [C10_call_is_spec_call]
  exact spec_call_np name args hs

/-- `sort_by`: a first key that is neither a number nor a string is an error
    — for every array length ≥ 1, the one-element array included. -/
theorem C10_sort_by_key_type (f : Val N → Res (Val N)) (x : Val N) (xs : List (Val N)) (k : Val N)
    (hk : f x = .ok k) (hn : ∀ n, k ≠ .num n) (hstr : ∀ s, k ≠ .str s) :
    ∃ e, sortBy f (x :: xs) = .err e := by
  cases k with
  | num n => exact absurd rfl (hn n)
  | str s => exact absurd rfl (hstr s)
  | _ => simp only [sortBy, hk]; exact ⟨_, rfl⟩

/-- `max_by` / `min_by` likewise. -/
theorem C10_extreme_by_key_type (f : Val N → Res (Val N)) (isMax : Bool) (x : Val N) (xs : List (Val N)) (k : Val N)
    (hk : f x = .ok k) (hn : ∀ n, k ≠ .num n) (hstr : ∀ s, k ≠ .str s) :
    ∃ e, extremeBy f isMax (x :: xs) = .err e := by
  cases k with
  | num n => exact absurd rfl (hn n)
  | str s => exact absurd rfl (hstr s)
  | _ => simp only [extremeBy, hk]; exact ⟨_, rfl⟩

/-- A key expression that fails on the first element makes the by-expression function fail with that error
    (at a later element: `C11_sort_by_key_error_any_position`, for `sort_by` alone). -/
theorem C10_by_key_error_propagates (f : Val N → Res (Val N)) (isMax : Bool) (x : Val N) (xs : List (Val N)) (e : Err)
    (hk : f x = .err e) : sortBy f (x :: xs) = .err e ∧ extremeBy f isMax (x :: xs) = .err e := by
  constructor <;> simp only [sortBy, extremeBy, hk]

/-- Keys that are not consistently numbers: a number first and a non-number second is an error
    (two elements; any length and any position: the `any_position` theorems). -/
theorem C10_mixed_keys_max_by (f : Val N → Res (Val N)) (isMax : Bool) (x y : Val N) (n : N) (k : Val N)
    (h0 : f x = .ok (.num n)) (h1 : f y = .ok k) (hk : ∀ m, k ≠ .num m) :
    ∃ e, extremeBy f isMax [x, y] = .err e := by
  simp only [extremeBy, h0, byLoopNum_eq]
  exact byLoop_err numOf f (List.mem_singleton.mpr rfl) (h1 ▸ numOf_eq_none hk) (by simp [h1]) _ _

/-- … and likewise for `sort_by`. -/
theorem C10_mixed_keys_sort_by (f : Val N → Res (Val N)) (x y : Val N) (n : N) (k : Val N)
    (h0 : f x = .ok (.num n)) (h1 : f y = .ok k) (hk : ∀ m, k ≠ .num m) :
    ∃ e, sortBy f [x, y] = .err e := by
  have hnone : keysNum f [y] = .ok none :=
    keysNum_eq f [y] ▸ keysOf_none numOf f (List.mem_singleton.mpr rfl) (h1 ▸ numOf_eq_none hk) (by simp [h1])
  simp only [sortBy, h0, hnone]; exact ⟨_, rfl⟩

/-- `sort_by` over an array of ANY length: when the first key is a number and ANY later element — wherever it sits — has a key
    that is not a number, the call is an error (no key evaluation panicking).  (`sort.Stable` insertion-sorts blocks of 20
    and then merges, so a check placed in `Less` sees only some pairs; the statement holds for every position.) -/
theorem C10_mixed_keys_sort_by_any_position (f : Val N → Res (Val N)) (x : Val N) (rest : List (Val N)) (n : N) (y k : Val N)
    (h0 : f x = .ok (.num n)) (hy : y ∈ rest) (h1 : f y = .ok k) (hk : ∀ m, k ≠ .num m)
    (hp : ∀ z ∈ rest, ∀ p, f z ≠ .panic p) : ∃ e, sortBy f (x :: rest) = .err e := by
  have hnone : keysNum f rest = .ok none :=
    keysNum_eq f rest ▸ keysOf_none numOf f hy (h1 ▸ numOf_eq_none hk) hp
  cases rest with  -- `sortBy` collects the keys of the tail only when there is a second element
  | nil => cases hy
  | cons r rs => simp only [sortBy, h0, hnone]; exact ⟨_, rfl⟩

/-- The same with string keys. -/
theorem C10_mixed_keys_sort_by_strings_any_position (f : Val N → Res (Val N)) (x : Val N) (rest : List (Val N)) (s0 : Bytes) (y k : Val N)
    (h0 : f x = .ok (.str s0)) (hy : y ∈ rest) (h1 : f y = .ok k) (hk : ∀ s, k ≠ .str s)
    (hp : ∀ z ∈ rest, ∀ p, f z ≠ .panic p) : ∃ e, sortBy f (x :: rest) = .err e := by
  have hnone : keysStr f rest = .ok none :=
    keysStr_eq f rest ▸ keysOf_none strOf f hy (h1 ▸ strOf_eq_none hk) hp
  cases rest with
  | nil => cases hy
  | cons r rs => simp only [sortBy, h0, hnone]; exact ⟨_, rfl⟩

/-- `max_by` / `min_by` likewise, for any length and any position of the odd key. -/
theorem C10_mixed_keys_extreme_by_any_position (f : Val N → Res (Val N)) (isMax : Bool) (x : Val N) (rest : List (Val N)) (n : N) (y k : Val N)
    (h0 : f x = .ok (.num n)) (hy : y ∈ rest) (h1 : f y = .ok k) (hk : ∀ m, k ≠ .num m)
    (hp : ∀ z ∈ rest, ∀ p, f z ≠ .panic p) : ∃ e, extremeBy f isMax (x :: rest) = .err e := by
  simp only [extremeBy, h0, byLoopNum_eq]
  exact byLoop_err numOf f hy (h1 ▸ numOf_eq_none hk) hp _ _

/-- The same with string keys. -/
theorem C10_mixed_keys_extreme_by_strings_any_position (f : Val N → Res (Val N)) (isMax : Bool) (x : Val N) (rest : List (Val N)) (s0 : Bytes) (y k : Val N)
    (h0 : f x = .ok (.str s0)) (hy : y ∈ rest) (h1 : f y = .ok k) (hk : ∀ s, k ≠ .str s)
    (hp : ∀ z ∈ rest, ∀ p, f z ≠ .panic p) : ∃ e, extremeBy f isMax (x :: rest) = .err e := by
  simp only [extremeBy, h0, byLoopStr_eq]
  exact byLoop_err strOf f hy (h1 ▸ strOf_eq_none hk) hp _ _

/-! Non-vacuity: 33 keys, the odd one at index 20, beyond the first block `sort.Stable` insertion-sorts. -/
example : ∃ e, sortBy (N := Int) (fun v => .ok v) (.num 0 :: ((List.range 32).map fun (i : Nat) => if i = 19 then Val.str [0x78] else Val.num (40 - (i : Int)))) = .err e :=
  C10_mixed_keys_sort_by_any_position _ _ _ 0 (.str [0x78]) (.str [0x78]) rfl (List.mem_map.mpr ⟨19, by decide, by simp⟩) rfl (by intro m h; cases h)
    (by intro z _ p h; cases h)

example : sigOf (keyBytes "merge") = some [{ types := [.object], variadic := true }] := by decide +kernel
example : sigOf (keyBytes "nosuch") = none := by decide +kernel
example : ¬ WellTyped [({ types := [.object], variadic := true } : ArgSpec)] [(.val (.str [0x61]) : Arg Int)] := by
  intro h
  have := h.2 0 (by simp)
  simp [typeCheck, typeOk] at this
example : ¬ WellTyped [({ types := [.any], variadic := false } : ArgSpec)] [(.ref (fun v => .ok v) : Arg Int)] := by
  intro h
  have := h.2 0 (by simp)
  simp [typeCheck, typeOk] at this

end Jmes.Props
