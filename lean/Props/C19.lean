/-
  Props.C19 — jpgo prints exactly the library result and signals failure by
  exit status (DESIGN.md §7, C19; partial: process start-up, `flag`, file I/O
  and encoding/json are the OS and the standard library — modelled in
  Jmes/Cli.lean and Jmes/Json.lean, validated on the built binary).
-/
import Props.Tables
import Proofs.Cli
namespace Jmes.Props
open Jmes Jmes.Cli

theorem C19_generated_table_ok : TableOK Generated.table = true := generated_table_ok
theorem C19_generated_sigs_ok : SigsOK Generated.functionTable Spec.functionTable = true := generated_sigs_ok
theorem C19_generated_lex_ok : LexTablesOK Model.lexTables Spec.lexTables = true := generated_lex_ok

variable {N : Type} [NumOps N]

/-- Success: a valid expression, readable valid JSON input (file or standard
    input), a successful search whose result `encoding/json` can write (no NaN
    or infinity in it): standard output is the indented JSON of exactly the
    library's value followed by a newline, and the status is 0. -/
theorem C19_success (cfg : Api.Config) (expr : Bytes) (input : Input) (bytes : Bytes) (ast : Node N) (doc result : Val N)
    (hc : (Api.compile cfg expr : Res (Node N)) = .ok ast) (hi : input.data = some bytes)
    (hd : (Json.decode bytes : Option (Val N)) = some doc) (hs : Api.search cfg expr doc = .ok result)
    (hf : result.finite = true) :
    run (N := N) cfg [expr] input = ⟨Json.encodeIndent 0 result ++ [0x0A], 0⟩ := by
  simp only [run, hc, hi, hd, hs, hf, if_true]

/-- Every output with a non-empty standard output is a success: status 0,
    and the text is the serialisation of the value `Search` returned for the
    given expression on the decoded input. -/
theorem C19_output_is_the_library_result (cfg : Api.Config) (args : List Bytes) (input : Input)
    (hout : (run (N := N) cfg args input).stdout ≠ []) :
    (run (N := N) cfg args input).exit = 0 ∧
    ∃ expr bytes doc result, args = [expr] ∧ input.data = some bytes ∧
      (Json.decode bytes : Option (Val N)) = some doc ∧ Api.search cfg expr doc = .ok result ∧
      (run (N := N) cfg args input).stdout = Json.encodeIndent 0 result ++ [0x0A] := by
  rcases run_cases (N := N) cfg args input with h | ⟨expr, _, bytes, doc, result, h1, _, h2, h3, h4, h5⟩
  · exact absurd h.1 hout
  · rw [h5]; exact ⟨rfl, expr, bytes, doc, result, h1, h2, h3, h4, rfl⟩

/-- Failure: an invalid expression, a wrong argument count, an unreadable
    file, invalid JSON input or an evaluation error prints nothing on standard
    output and exits with a non-zero status. -/
theorem C19_failure (cfg : Api.Config) (args : List Bytes) (input : Input)
    (h : (∀ expr, args ≠ [expr]) ∨
         (∃ expr, args = [expr] ∧ (∀ ast, (Api.compile cfg expr : Res (Node N)) ≠ .ok ast)) ∨
         input.data = none ∨
         (∃ bytes, input.data = some bytes ∧ (Json.decode bytes : Option (Val N)) = none) ∨
         (∃ expr bytes doc, args = [expr] ∧ input.data = some bytes ∧
            (Json.decode bytes : Option (Val N)) = some doc ∧ ∀ r, Api.search cfg expr doc ≠ .ok r)) :
    (run (N := N) cfg args input).stdout = [] ∧ (run (N := N) cfg args input).exit ≠ 0 := by
  rcases run_cases (N := N) cfg args input with hf | ⟨expr, ast, bytes, doc, result, ha, hcomp, hi, hd, hs, _⟩
  · exact hf
  · exfalso
    rcases h with h | ⟨e, he, hc⟩ | h | ⟨bs, hb, hn⟩ | ⟨e, bs, dc, he, hb, hdd, hr⟩
    · exact h expr ha
    · rw [ha] at he; cases he; exact hc ast hcomp
    · rw [hi] at h; cases h
    · rw [hi] at hb; cases hb; rw [hd] at hn; cases hn
    · rw [ha] at he; cases he
      rw [hi] at hb; cases hb
      rw [hd] at hdd; cases hdd
      exact hr result hs

end Jmes.Props
