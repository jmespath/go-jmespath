/-
  Props.C02 — projections apply element-wise, drop nulls, keep order and stop
  where specified (DESIGN.md §7, C02).  Where a projection's right-hand side ends is a
  parser fact: two instances of the printer round trip and the two general statements of
  C15 / C03 under this property's name.
-/
import Props.Tables
import Proofs.EvalEq
import Props.C03
namespace Jmes.Props
open Jmes Jmes.Interp

theorem C02_generated_table_ok : TableOK Generated.table = true := generated_table_ok
theorem C02_generated_sigs_ok : SigsOK Generated.functionTable Spec.functionTable = true := generated_sigs_ok
theorem C02_generated_lex_ok : LexTablesOK Model.lexTables Spec.lexTables = true := generated_lex_ok

variable {N : Type} [NumOps N]

omit [NumOps N] in
/-- The projection loop is `filterMap`, in order.  (This is `Interp.projectLoop_ok`; `Interp.projectLoop_eq` is the
    loop as `Res.mapM'`.) -/
theorem projectLoop_eq (f : Val N → Res (Val N)) (g : Val N → Val N) (xs : List (Val N))
    (h : ∀ x ∈ xs, f x = .ok (g x)) : projectLoop f xs = .ok (dropNulls (xs.map g)) :=
  projectLoop_ok f g xs h

omit [NumOps N] in
theorem dropNulls_spec (xs : List (Val N)) : dropNulls xs = xs.filter (fun v => match v with | .null => false | _ => true) := by
  induction xs with
  | nil => rfl
  | cons x xs ih =>
    rw [List.filter_cons]
    cases x with
    | null => exact ih
    | _ => exact congrArg (_ :: ·) ih

/-- List projection `left[*] rhs`, and every projection built on it (slice,
    flatten): on an array, the right-hand side of each element in document
    order, nulls dropped (when it yields a value for every element; otherwise `C02_element_error_propagates`). -/
theorem C02_list_projection (ft : List FnEntry) (l r : Node N) (d : Val N) (xs : List (Val N)) (g : Val N → Val N)
    (hl : eval ft l d = .ok (.arr xs)) (hr : ∀ x ∈ xs, eval ft r x = .ok (g x)) :
    eval ft (.proj l r) d = .ok (.arr (dropNulls (xs.map g))) := by
  simp only [eval_proj, hl, Res.bind_ok, projectOver, arrElems, projectLoop_eq (eval ft r) g xs hr]

/-- … and null when the left-hand side is not an array. -/
theorem C02_projection_of_non_array (ft : List FnEntry) (l r : Node N) (d v : Val N)
    (hl : eval ft l d = .ok v) (hv : ∀ xs, v ≠ .arr xs) : eval ft (.proj l r) d = .ok .null := by
  rw [eval_proj, hl]
  cases v with
  | arr xs => exact absurd rfl (hv xs)
  | _ => rfl

/-- Object wildcard, on an object: the right-hand side of each member value (when it yields one for every member),
    nulls dropped (the model lists members in key order; Go's order is unspecified). -/
theorem C02_object_wildcard (ft : List FnEntry) (l r : Node N) (d : Val N) (kvs : List (Bytes × Val N)) (g : Val N → Val N)
    (hl : eval ft l d = .ok (.obj kvs)) (hr : ∀ kv ∈ kvs, eval ft r kv.2 = .ok (g kv.2)) :
    eval ft (.valueProj l r) d = .ok (.arr (dropNulls ((kvs.map (·.2)).map g))) := by
  simp only [eval_valueProj, hl, Res.bind_ok, projectOver, objElems,
    projectLoop_eq (eval ft r) g _ (List.forall_mem_map.mpr hr)]

theorem C02_object_wildcard_of_non_object (ft : List FnEntry) (l r : Node N) (d v : Val N)
    (hl : eval ft l d = .ok v) (hv : ∀ kvs, v ≠ .obj kvs) : eval ft (.valueProj l r) d = .ok .null := by
  rw [eval_valueProj, hl]
  cases v with
  | obj kvs => exact absurd rfl (hv kvs)
  | _ => rfl

omit [NumOps N] in
/-- Flatten splices exactly one level. -/
theorem flattenOnce_spec (xs : List (Val N)) :
    flattenOnce xs = xs.flatMap (fun v => match v with | .arr ys => ys | v => [v]) := by
  induction xs with
  | nil => rfl
  | cons x xs ih =>
    rw [List.flatMap_cons, ← ih]
    cases x <;> rfl

theorem C02_flatten (ft : List FnEntry) (e : Node N) (d : Val N) (xs : List (Val N)) (h : eval ft e d = .ok (.arr xs)) :
    eval ft (.flatten e) d = .ok (.arr (xs.flatMap (fun v => match v with | .arr ys => ys | v => [v]))) := by
  simp only [eval_flatten, h, Res.bind_ok, flattenOnce_spec]

theorem C02_flatten_of_non_array (ft : List FnEntry) (e : Node N) (d v : Val N)
    (h : eval ft e d = .ok v) (hv : ∀ xs, v ≠ .arr xs) : eval ft (.flatten e) d = .ok .null := by
  rw [eval_flatten, h]
  cases v with
  | arr xs => exact absurd rfl (hv xs)
  | _ => rfl

omit [NumOps N] in
theorem filterLoop_eq (cond rhs : Val N → Res (Val N)) (cf rf : Val N → Val N) (xs : List (Val N))
    (hc : ∀ x ∈ xs, cond x = .ok (cf x)) (hr : ∀ x ∈ xs, rhs x = .ok (rf x)) :
    filterLoop cond rhs xs = .ok (dropNulls ((xs.filter (fun x => !(cf x).isFalse)).map rf)) :=
  filterLoop_ok cond rhs cf rf xs hc hr

/-- Filter projection: keeps exactly the elements whose condition is
    true-like, then applies the right-hand side and drops nulls. -/
theorem C02_filter_projection (ft : List FnEntry) (l r c : Node N) (d : Val N) (xs : List (Val N)) (cf rf : Val N → Val N)
    (hl : eval ft l d = .ok (.arr xs)) (hc : ∀ x ∈ xs, eval ft c x = .ok (cf x)) (hr : ∀ x ∈ xs, eval ft r x = .ok (rf x)) :
    eval ft (.filterProj l r c) d = .ok (.arr (dropNulls ((xs.filter (fun x => !(cf x).isFalse)).map rf))) := by
  simp only [eval_filterProj, hl, Res.bind_ok, projectOver, arrElems, filterLoop_eq (eval ft c) (eval ft r) cf rf xs hc hr]

theorem C02_filter_of_non_array (ft : List FnEntry) (l r c : Node N) (d v : Val N)
    (hl : eval ft l d = .ok v) (hv : ∀ xs, v ≠ .arr xs) : eval ft (.filterProj l r c) d = .ok .null := by
  rw [eval_filterProj, hl]
  cases v with
  | arr xs => exact absurd rfl (hv xs)
  | _ => rfl

/-- An error on the left of any projection is an error of the projection
    (never null, never a partial result). -/
theorem C02_left_error_propagates (ft : List FnEntry) (l r c : Node N) (d : Val N) (e : Err) (hl : eval ft l d = .err e) :
    eval ft (.proj l r) d = .err e ∧ eval ft (.valueProj l r) d = .err e ∧
    eval ft (.filterProj l r c) d = .err e ∧ eval ft (.flatten l) d = .err e := by
  simp only [eval_proj, eval_valueProj, eval_filterProj, eval_flatten, hl, Res.bind_err, and_self]

omit [NumOps N] in
/-- If the right-hand side yields no value (an error) for some element, the projection loop yields none:
    never a partial result. -/
theorem C02_element_error_propagates (f : Val N → Res (Val N)) (xs : List (Val N)) (x : Val N) (hx : x ∈ xs)
    (hf : ∀ v, f x ≠ .ok v) : ∀ ys, projectLoop f xs ≠ .ok ys :=
  projectLoop_ne_ok hx hf

/-! Where a projection's right-hand side ends, from the printer theorem (C03):
`a[*].b.c` written without parentheses is the projection of `a` whose
right-hand side is the whole of `b.c`; a pipe ends it. -/

open Jmes.Spec Jmes.Parser in
theorem C02_rhs_extends_over_dots (a bb c : Bytes) :
    parseTokens (N := N) Generated.table
      ([tk .uident a, tk .lbracket, tk .star, tk .rbracket, tk .dot, tk .uident bb, tk .dot, tk .uident c, eofTok 0]) =
      .ok (.proj (.field a) (.sub (.field bb) (.field c))) :=
  -- `Parser.wf`: each `rfl` checks what follows a dot (`dotOK`); identifiers ask for nothing
  round_trip_generated (.bstar (.ident a) (.dot (.sub (.ident bb) (.ident c)))) ⟨trivial, rfl, rfl, trivial, trivial⟩

open Jmes.Spec Jmes.Parser in
theorem C02_pipe_ends_the_rhs (a bb c : Bytes) :
    parseTokens (N := N) Generated.table
      ([tk .uident a, tk .lbracket, tk .star, tk .rbracket, tk .dot, tk .uident bb, tk .pipe, tk .uident c, eofTok 0]) =
      .ok (.pipe (.proj (.field a) (.field bb)) (.field c)) :=
  round_trip_generated (.bin .pipe (.bstar (.ident a) (.dot (.ident bb))) (.ident c)) ⟨⟨trivial, rfl, trivial⟩, trivial⟩

/-- In `A | B` the pipe ends every projection left open at the end of `A`, whatever `A` is (token level): if the token
    lists `A`, `B` compile to `a`, `b`, then `A | B`, shaped as the lexer's output (`TokensOK`), compiles and evaluates
    as `b` applied to the value of `a`. -/
theorem C02_pipe_ends_any_projection (As Bs : List Token) (eA eB pt : Token) (a b : Node N) (total : Nat)
    (heA : eA.ty = .eof) (heB : eB.ty = .eof) (hpt : pt.ty = .pipe)
    (hnA : ∀ t ∈ As, t.ty ≠ .eof) (hnB : ∀ t ∈ Bs, t.ty ≠ .eof)
    (hA : Parser.parseTokens Generated.table (As ++ [eA]) = .ok a) (hB : Parser.parseTokens Generated.table (Bs ++ [eB]) = .ok b)
    (htoks : Lexer.TokensOK total (As ++ pt :: (Bs ++ [eB]))) :
    ∃ X, Parser.parseTokens Generated.table (As ++ pt :: (Bs ++ [eB])) = .ok X ∧
      ∀ (ft : List FnEntry) (d : Val N), eval ft X d = (eval ft a d >>= fun v => eval ft b v) :=
  C15_pipe_of_any_expressions As Bs eA eB pt a b total heA heB hpt hnA hnB hA hB htoks

/-- In front of `)`, `]`, `}`, `,` or the end of input the parser has read exactly `A` and built the
    AST `A` compiles to alone, whatever projections `A` ends in: nothing after the closing token is drawn into one.
    (Stated of the specification-table parser, which /repo's is: `C03_repo_parser_is_spec_parser`;
    `Parser.R tbl (.expr 0 p) (.node a p')`: `parseExpression(0)` started in state `p` returns `a` in state `p'`.) -/
theorem C02_closing_token_ends_any_projection (As : List Token) (eA : Token) (a : Node N)
    (heA : eA.ty = .eof) (hnA : ∀ t ∈ As, t.ty ≠ .eof) (hA : Parser.parseTokens Spec.table (As ++ [eA]) = .ok a)
    (bef : List Token) (f : Token) (rest : List Token) (hf : Parser.followerOK f.ty = true) (hpow : Parser.specPow f.ty = 0) :
    Parser.R Spec.table (.expr 0 ⟨bef, As ++ f :: rest⟩) (.node a ⟨As.reverse ++ bef, f :: rest⟩) :=
  C03_member_is_read_as_alone As eA a heA hnA hA bef f rest hf hpow

end Jmes.Props
