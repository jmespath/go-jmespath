/-
  Props.C16 — a successful Search over JSON data returns JSON data
  (DESIGN.md §7, C16); proved of `eval` on an AST whose literals are JSON
  (`litsJSON`).  "JSON data" = `Val.isJSON`: null, booleans, FINITE
  numbers, strings, arrays and objects with strictly ascending (hence unique)
  string keys, recursively.  The model's `Val` has no constructor for internal
  objects (expression references are closures that never become values: that is
  the parser's guarantee, C04) and does not distinguish nil from empty
  containers (that distinction is observed on the implementation by the
  harness's canonical rendering).
-/
import Props.Tables
import Proofs.EvalJson
import Proofs.JsonValue
import Proofs.IntCodec
namespace Jmes.Props
open Jmes.Interp

theorem C16_generated_table_ok : TableOK Generated.table = true := generated_table_ok
theorem C16_generated_sigs_ok : SigsOK Generated.functionTable Spec.functionTable = true := generated_sigs_ok
theorem C16_generated_lex_ok : LexTablesOK Model.lexTables Spec.lexTables = true := generated_lex_ok

variable {N : Type} [NumOps N] [NumLaws N]

/-- Closure: for numbers obeying `NumLaws` — in particular sums and averages
    of the numbers at hand stay finite: "numbers of moderate magnitude" — every
    successful evaluation of an expression whose literals are JSON, on a JSON
    document, is JSON.  Stated for the function table regenerated from /repo;
    `eval_json` has it for every function table. -/
theorem C16_closure (n : Node N) (hl : litsJSON n) (d r : Val N) (hd : d.isJSON = true)
    (h : eval Generated.functionTable n d = .ok r) : r.isJSON = true :=
  eval_json Generated.functionTable n hl d r hd h

/-- In particular a numeric result is finite: no NaN or infinity (inside a result array or
    object the same is part of `isJSON`, which is recursive). -/
theorem C16_numbers_are_finite (n : Node N) (hl : litsJSON n) (d : Val N) (hd : d.isJSON = true) (x : N)
    (h : eval Generated.functionTable n d = .ok (.num x)) : NumOps.isFinite x = true :=
  (Val.isJSON_num x).mp (C16_closure n hl d _ hd h)

/-- The two arithmetic results that can leave the finite range are guarded.  The first:
    avg of an empty array is null, not 0/0. -/
theorem C16_avg_empty_is_null : Fn.handle (N := N) .avg false [.val (.arr [])] = .ok .null := rfl

/-- The second: to_number of a string, where it succeeds, is null or a finite number. -/
theorem C16_to_number_is_finite_or_null (s : Bytes) (r : Val N)
    (h : Fn.handle (N := N) .toNumber false [.val (.str s)] = .ok r) :
    r = .null ∨ ∃ x, r = .num x ∧ NumOps.isFinite x = true := by
  unfold Fn.handle at h
  simp only [Bool.false_eq_true, if_false] at h
  split at h
  · split at h <;> cases h
    · rename_i hfin
      exact Or.inr ⟨_, rfl, hfin⟩
    · exact Or.inl rfl
  · cases h; exact Or.inl rfl

/-- The hypothesis `litsJSON` of `C16_closure`: raw-string literals meet it.  For literals
    decoded from JSON text it is not proved: it comes down to the decoder delivering finite
    numbers (encoding/json rejects out-of-range numbers; modelled, validated on the
    `jsoncodec` stream). -/
theorem C16_raw_string_literal_is_json (s : Bytes) : litsJSON (N := N) (.literal (.str s)) := rfl

example : NumLaws Int := inferInstance
example : eval (N := Int) Generated.functionTable (.msList [.current, .literal (.str [0x78])]) (.num 3)
    = .ok (.arr [.num 3, .str [0x78]]) := rfl

open Jmes.Json in
/-- **`json.Unmarshal(json.Marshal(v)) = v`** for every JSON value whose numbers
    are finite, whose strings and keys are well-formed UTF-8, whose objects have
    ascending keys (as `Unmarshal` builds them) and whose depth is within
    `encoding/json`'s limit — given the contract `NumCodec` of the number text
    codec (float formatting/parsing: ported algorithms, validated by differential
    testing, not verified).  Of these conditions `C16_closure` gives finite numbers
    and ascending keys for every successful Search result; well-formed UTF-8 and
    the depth limit remain conditions on the result. -/
theorem C16_serialise_and_read_back (hN : NumCodec N) (v : Val N) (hv : okV v) (hd : depthV v ≤ maxDepth) :
    decode (encode v) = some v :=
  decode_encode hN v hv hd

open Jmes.Json in
/-- strings alone need no assumption: every well-formed UTF-8 string survives encode/decode -/
theorem C16_string_round_trip (s : Bytes) (hv : ValidUtf8 s) :
    (decode (encode (.str s : Val N)) : Option (Val N)) = some (.str s) := by
  unfold decode
  have := parse_str (N := N) s hv (encode (.str s : Val N)).length 0 []
  simp only [List.append_nil] at this
  rw [this]
  rfl

/-- The contract `NumCodec` is satisfiable (the integer instance: decimal text is a JSON number token that
    parses back), so `C16_serialise_and_read_back` is not vacuous. -/
theorem C16_num_codec_satisfiable : Json.NumCodec Int := intNumCodec

end Jmes.Props
