/-
  Props.C09 — each built-in function returns the value its specification
  defines (DESIGN.md §7, C09).  Laws proved for the model's handlers (the
  table wiring name → handler is `generated_sigs_ok`); the tie of each handler
  to the code is the correspondence stream `fn`.  The order laws on numbers (`sort`, `max`, `min`
  and the `_by` forms) assume `NumLaws N` (Jmes/Num.lean: `lt` is a strict total order, as on the integers).
-/
import Props.Tables
import Proofs.FunctionsJson
import Proofs.JsonValue
import Proofs.Utf8Order
import Proofs.StrOrder
import Proofs.FunctionsMore
namespace Jmes.Props
open Jmes Jmes.Fn Jmes.FnMore

theorem C09_generated_table_ok : TableOK Generated.table = true := generated_table_ok
/-- every name is wired to its own handler ("max" ↦ jpfMax, …) with the specified signature -/
theorem C09_generated_sigs_ok : SigsOK Generated.functionTable Spec.functionTable = true := generated_sigs_ok
theorem C09_generated_lex_ok : LexTablesOK Model.lexTables Spec.lexTables = true := generated_lex_ok

variable {N : Type} [NumOps N]

def leNum (a b : N) : Bool := !NumOps.lt b a

theorem leNum_total [NumLaws N] (a b : N) : (leNum a b || leNum b a) = true := by
  unfold leNum
  cases h : NumOps.lt b a
  · rfl
  · simp [numLt_ord.asymm h]

theorem leNum_trans [NumLaws N] (a b c : N) (h1 : leNum a b = true) (h2 : leNum b c = true) : leNum a c = true := by
  simp only [leNum, Bool.not_eq_true'] at *
  exact numLt_ord.not_lt_trans h1 h2

/-- `sort` on numbers: the result is a permutation of the input, ascending
    (no element is greater than a later one), and stable (elements that are
    already in order keep their relative order: every sublist of the input that is
    in order is a sublist of the result). -/
theorem C09_sort_numbers [NumLaws N] (xs : List N) :
    (List.mergeSort xs leNum).Perm xs ∧ (List.mergeSort xs leNum).Pairwise (fun a b => NumOps.lt b a = false) ∧
    ∀ ys : List N, ys.Pairwise (fun a b => leNum a b = true) → ys.Sublist xs → ys.Sublist (List.mergeSort xs leNum) :=
  sort_by_key numLt_ord id xs

/-- The handler is that sort. -/
theorem C09_sort_handler (xs : List (Val N)) (ns : List N) (h : allNums xs = some ns) :
    handle .sort false [.val (.arr xs)] = .ok (.arr ((List.mergeSort ns leNum).map .num)) := by
  unfold handle
  simp only [Bool.false_eq_true, if_false, toArrayNum, h]
  rfl

def leKey (a b : N × Val N) : Bool := !NumOps.lt b.1 a.1

/-- `sort_by` with number keys: a stable ascending sort by key — a permutation
    of the (key, element) pairs, ascending in the key, preserving the order of
    elements whose keys are already in order (in particular of equal keys). -/
theorem C09_sort_by_is_stable_sort [NumLaws N] (ps : List (N × Val N)) :
    (List.mergeSort ps leKey).Perm ps ∧ (List.mergeSort ps leKey).Pairwise (fun a b => NumOps.lt b.1 a.1 = false) ∧
    ∀ a b, leKey a b = true → [a, b].Sublist ps → [a, b].Sublist (List.mergeSort ps leKey) := by
  have h := sort_by_key numLt_ord Prod.fst ps
  exact ⟨h.1, h.2.1, fun a b hab => h.2.2 [a, b] (List.pairwise_pair.mpr hab)⟩

/-- … and the keys are evaluated by applying the expression reference to each element (stated for two or more
    elements, all keys numbers). -/
theorem C09_sort_by_handler (f : Val N → Res (Val N)) (x y : Val N) (rest : List (Val N)) (k0 : N) (ks : List (N × Val N))
    (h0 : f x = .ok (.num k0)) (hk : keysNum f (y :: rest) = .ok (some ks)) :
    sortBy f (x :: y :: rest) = .ok (.arr ((List.mergeSort ((k0, x) :: ks) leKey).map (·.2))) ∧
    ks.map (·.2) = y :: rest := by
  refine ⟨?_, keysOf_snd numOf f (keysNum_eq f _ ▸ hk)⟩
  simp only [sortBy, h0, hk]
  rfl

theorem maxNum_ge [NumLaws N] : ∀ (best : N) (xs : List N), NumOps.lt (maxNum best xs) best = false ∧
    ∀ x ∈ xs, NumOps.lt (maxNum best xs) x = false
  | best, xs => maxNum_eq_extLoopN xs best ▸ extLoopN_ge numLt_ord best xs

/-- `max` on numbers returns an element of the array that no element exceeds (the empty array: `C09_max_min_empty`). -/
theorem C09_max_numbers [NumLaws N] (x : N) (xs : List N) :
    maxNum x xs ∈ x :: xs ∧ ∀ y ∈ x :: xs, NumOps.lt (maxNum x xs) y = false := by
  rw [maxNum_eq_extLoopN]
  exact extLoopN_extreme numLt_ord x xs

/-- `min` on numbers returns an element of the array that exceeds no element;
    and the handler on a non-empty array of numbers returns that number. -/
theorem C09_min_numbers [NumLaws N] (x : N) (xs : List N) :
    minNum x xs ∈ x :: xs ∧ (∀ y ∈ x :: xs, NumOps.lt y (minNum x xs) = false) ∧
    handle .min false [.val (.arr ((x :: xs).map .num))] = .ok (.num (minNum x xs)) := by
  have h := extLoopN_extreme numLt_ord.flip x xs
  rw [← minNum_eq_extLoopN] at h
  exact ⟨h.1, h.2, by dsimp only [handle, toArrayNum]; rw [allNums_map_num]; rfl⟩

/-- The `max` / `min` handlers on a non-empty array of numbers are `maxNum` / `minNum`
    (with `C09_max_numbers`, `C09_min_numbers`: the greatest / least element). -/
theorem C09_max_min_handler_numbers (vs : List (Val N)) (n : N) (ns : List N) (h : allNums vs = some (n :: ns)) :
    handle .max false [.val (.arr vs)] = .ok (.num (maxNum n ns)) ∧
    handle .min false [.val (.arr vs)] = .ok (.num (minNum n ns)) := by
  unfold handle
  simp [toArrayNum, h]

/-- `max`, `min` of the empty array and `max_by` on it are null. -/
theorem C09_max_min_empty : handle (N := N) .max false [.val (.arr [])] = .ok .null ∧
    handle (N := N) .min false [.val (.arr [])] = .ok .null ∧ extremeBy (N := N) (fun v => .ok v) true [] = .ok .null :=
  ⟨rfl, rfl, rfl⟩

/-- `max_by` with number keys: the result is an element with maximal key, and it is the FIRST
    such element: every earlier element has a strictly smaller key. -/
theorem C09_max_by_first_maximal [NumLaws N] (f : Val N → Res (Val N)) (key : Val N → N) (x : Val N) (xs : List (Val N)) (r : Val N)
    (hf : ∀ y ∈ x :: xs, f y = .ok (.num (key y))) (h : extremeBy f true (x :: xs) = .ok r) :
    ∃ pre post, x :: xs = pre ++ r :: post ∧ (∀ y ∈ pre, NumOps.lt (key y) (key r) = true) ∧
      ∀ y ∈ post, NumOps.lt (key r) (key y) = false := by
  simp only [extremeBy, hf x (List.mem_cons_self ..), if_true, byLoopNum_eq] at h
  exact byLoop_first_split numLt_ord key h fun y hy => ⟨_, hf y (List.mem_cons_of_mem _ hy), rfl⟩

/-- `min_by` with number keys: the result is an element with minimal key, and
    it is the FIRST such element: every earlier element has a strictly greater key. -/
theorem C09_min_by_first_minimal [NumLaws N] (f : Val N → Res (Val N)) (key : Val N → N) (x : Val N) (xs : List (Val N)) (r : Val N)
    (hf : ∀ y ∈ x :: xs, f y = .ok (.num (key y))) (h : extremeBy f false (x :: xs) = .ok r) :
    ∃ pre post, x :: xs = pre ++ r :: post ∧ (∀ y ∈ pre, NumOps.lt (key r) (key y) = true) ∧
      ∀ y ∈ post, NumOps.lt (key y) (key r) = false := by
  simp only [extremeBy, hf x (List.mem_cons_self ..), Bool.false_eq_true, if_false, byLoopNum_eq] at h
  exact byLoop_first_split numLt_ord.flip key h fun y hy => ⟨_, hf y (List.mem_cons_of_mem _ hy), rfl⟩

/-- … at the handler: `min_by(array, &expr)` is that element. -/
theorem C09_min_by_handler [NumLaws N] (f : Val N → Res (Val N)) (key : Val N → N) (x : Val N) (xs : List (Val N)) (r : Val N)
    (hf : ∀ y ∈ x :: xs, f y = .ok (.num (key y))) (h : handle .minBy true [.val (.arr (x :: xs)), .ref f] = .ok r) :
    ∃ pre post, x :: xs = pre ++ r :: post ∧ (∀ y ∈ pre, NumOps.lt (key r) (key y) = true) ∧
      ∀ y ∈ post, NumOps.lt (key y) (key r) = false :=
  C09_min_by_first_minimal f key x xs r hf h

/-- `max_by` / `min_by` of the empty array are null, whatever the expression. -/
theorem C09_max_by_min_by_empty (f : Val N → Res (Val N)) :
    handle .maxBy true [.val (.arr []), .ref f] = .ok .null ∧
    handle .minBy true [.val (.arr []), .ref f] = .ok .null := ⟨rfl, rfl⟩

omit [NumOps N] in
theorem lookup_foldl_insert (j : Bytes) : ∀ (kvs acc : List (Bytes × Val N)),
    Val.lookup j (kvs.foldl (fun m kv => Val.insert kv.1 kv.2 m) acc) =
      match Val.lookup j kvs.reverse with
      | some v => some v
      | none => Val.lookup j acc
  | kvs, acc => by
    rw [Val.lookup_foldl_insert_or]
    cases Val.lookup j kvs.reverse <;> rfl

/-- `merge(a, b)`: a key present in `b` has `b`'s value, otherwise `a`'s (`lookup … .reverse`: its last value there,
    should an argument repeat a key; objects have unique keys). -/
theorem C09_merge_later_wins (a b : List (Bytes × Val N)) (j : Bytes) (r : Val N)
    (h : handle (N := N) .merge false [.val (.obj a), .val (.obj b)] = .ok r) :
    ∃ kvs, r = .obj kvs ∧
      Val.lookup j kvs = (match Val.lookup j b.reverse with
        | some v => some v
        | none => match Val.lookup j a.reverse with | some v => some v | none => none) := by
  cases h
  refine ⟨_, rfl, ?_⟩
  rw [lookup_foldl_insert j b, lookup_foldl_insert j a]
  rfl

/-- `merge(a)`: an object in which every key looks up to the value it has in `a`
    (its last one, should `a` repeat a key; objects have unique keys — second part). -/
theorem C09_merge_single (a : List (Bytes × Val N)) (r : Val N)
    (h : handle (N := N) .merge false [.val (.obj a)] = .ok r) :
    ∃ kvs, r = .obj kvs ∧ (∀ j, Val.lookup j kvs = Val.lookup j a.reverse) ∧
      (a.Pairwise (fun p q => p.1 ≠ q.1) → ∀ j, Val.lookup j kvs = Val.lookup j a) := by
  cases h
  have h1 : ∀ j, Val.lookup j (a.foldl (fun m kv => Val.insert kv.1 kv.2 m) []) = Val.lookup j a.reverse :=
    fun j => (Val.lookup_foldl_insert_or j a []).trans Option.or_none
  refine ⟨_, rfl, h1, ?_⟩
  intro hd j
  rw [h1 j, Val.lookup_reverse_of_distinct j a hd]

/-- `merge` invents no keys: a key that is in none of the arguments is not in the result. -/
theorem C09_merge_keys_subset (objs : List (List (Bytes × Val N))) (j : Bytes) (r : Val N)
    (hj : ∀ o ∈ objs, Val.lookup j o = none)
    (h : handle (N := N) .merge false (objs.map (fun o => .val (.obj o))) = .ok r) :
    ∃ kvs, r = .obj kvs ∧ Val.lookup j kvs = none :=
  mergeLoop_absent j objs [] r rfl hj h

omit [NumOps N] in
/-- `map`: one result per element, in order, nulls kept; the expression is
    evaluated once per element with that element as the current node. -/
theorem C09_map (f : Val N → Res (Val N)) : ∀ (xs ys : List (Val N)), mapLoop f xs = .ok ys →
    ys.length = xs.length ∧ ∀ i (hi : i < xs.length) (hj : i < ys.length), f xs[i] = .ok ys[i]
  | xs, _, h => Res.mapM'_ok (mapLoop_eq f xs ▸ h)

/-- `map` keeps nulls: the result has exactly as many elements as the input, and
    where the expression yields null the result holds null (nothing is dropped). -/
theorem C09_map_keeps_nulls (f : Val N → Res (Val N)) (xs : List (Val N)) (r : Val N)
    (h : handle .map true [.ref f, .val (.arr xs)] = .ok r) :
    ∃ ys, r = .arr ys ∧ ys.length = xs.length ∧
      ∀ i (hi : i < xs.length) (hj : i < ys.length), f xs[i] = .ok .null → ys[i] = .null := by
  unfold handle at h
  simp only [Bool.not_true, Bool.false_eq_true, if_false] at h
  split at h
  · rename_i ys hm
    cases h
    obtain ⟨hl, hi⟩ := C09_map f xs ys hm
    exact ⟨ys, rfl, hl, fun i h1 h2 hn => Res.ok.inj ((hi i h1 h2).symm.trans hn)⟩
  · cases h
  · cases h

/-- `reverse`: an array back to front; a string code point by code point. -/
theorem C09_reverse (xs : List (Val N)) (s : Bytes) :
    handle .reverse false [.val (.arr xs)] = .ok (.arr xs.reverse) ∧
    handle (N := N) .reverse false [.val (.str s)] = .ok (.str (Utf8.encodeRunes (Utf8.runes s).reverse)) :=
  ⟨rfl, rfl⟩

/-- `length` of a string counts code points. -/
theorem C09_length_string (s : Bytes) :
    handle (N := N) .length false [.val (.str s)] = .ok (.num (NumOps.ofNat (Utf8.runes s).length)) :=
  rfl

/-- `length` of an array is its number of elements. -/
theorem C09_length_array (xs : List (Val N)) :
    handle .length false [.val (.arr xs)] = .ok (.num (NumOps.ofNat xs.length)) := rfl

/-- `length` of an object is its number of members. -/
theorem C09_length_object (kvs : List (Bytes × Val N)) :
    handle .length false [.val (.obj kvs)] = .ok (.num (NumOps.ofNat kvs.length)) := rfl

/-- `keys` / `values`: the member names / values of an object (the model lists members in key order; Go's order is
    unspecified). -/
theorem C09_keys_values (kvs : List (Bytes × Val N)) :
    handle .keys false [.val (.obj kvs)] = .ok (.arr (kvs.map (fun kv => .str kv.1))) ∧
    handle .values false [.val (.obj kvs)] = .ok (.arr (kvs.map (·.2))) :=
  ⟨rfl, rfl⟩

def firstNonNull : List (Val N) → Val N
  | [] => .null
  | .null :: rest => firstNonNull rest
  | v :: _ => v

/-- `not_null`: the first argument that is not null, or null. -/
theorem C09_not_null (vs : List (Val N)) : handle .notNull false (vs.map .val) = .ok (firstNonNull vs) := by
  unfold handle
  simp only [Bool.false_eq_true, if_false]
  induction vs with
  | nil => rfl
  | cons v rest ih =>
    cases v with
    | null => exact ih
    | _ => rfl

/-- `not_null` of arguments that are all null is null. -/
theorem C09_not_null_all_null (vs : List (Val N)) (h : ∀ v ∈ vs, v = .null) :
    handle .notNull false (vs.map .val) = .ok .null := by
  rw [C09_not_null]
  congr 1
  induction vs with
  | nil => rfl
  | cons v rest ih =>
    rw [h v (by simp)]
    exact ih (fun w hw => h w (by simp [hw]))

/-- `avg`: the sum divided by the length; null on the empty array. -/
theorem C09_avg (xs : List (Val N)) (ns : List N) (hn : allNums xs = some ns) (hne : xs ≠ []) :
    handle .avg false [.val (.arr xs)] = .ok (.num (NumOps.div (sumNums ns) (NumOps.ofNat xs.length))) ∧
    handle (N := N) .avg false [.val (.arr [])] = .ok .null := by
  refine ⟨?_, rfl⟩
  cases allNums_eq_map xs ns hn
  have he : (ns.map Val.num).isEmpty = false := by
    cases ns
    · exact absurd rfl hne
    · rfl
  unfold handle
  simp only [Bool.false_eq_true, if_false, he, avgLoop_map_num, sumNums]

/-- `abs`, `ceil`, `floor` apply the corresponding operation of the number type. -/
theorem C09_abs_ceil_floor (n : N) :
    handle .abs false [.val (.num n)] = .ok (.num (NumOps.abs n)) ∧
    handle .ceil false [.val (.num n)] = .ok (.num (NumOps.ceil n)) ∧
    handle .floor false [.val (.num n)] = .ok (.num (NumOps.floor n)) := ⟨rfl, rfl, rfl⟩

/-- `sum` adds the numbers from zero, left to right (so `sum([]) = 0`). -/
theorem C09_sum (xs : List (Val N)) (ns : List N) (h : allNums xs = some ns) :
    handle .sum false [.val (.arr xs)] = .ok (.num (ns.foldl NumOps.add (NumOps.ofNat 0))) := by
  unfold handle
  simp [toArrayNum, h, sumNums]

/-- `starts_with` / `ends_with` are the prefix / suffix relations on bytes. -/
theorem C09_starts_ends_with (s p : Bytes) :
    handle (N := N) .startsWith false [.val (.str s), .val (.str p)] = .ok (.bool (p.isPrefixOf s)) ∧
    handle (N := N) .endsWith false [.val (.str s), .val (.str p)] = .ok (.bool (p.reverse.isPrefixOf s.reverse)) := ⟨rfl, rfl⟩

theorem isInfix_iff (needle : Bytes) : ∀ hay : Bytes, isInfix needle hay = true ↔ ∃ pre post, hay = pre ++ needle ++ post :=
  fun hay => (isInfix_iff_infix needle hay).trans (exists_congr fun _ => exists_congr fun _ => eq_comm)

/-- `contains` on a string: the second string occurs in it; on an array: some element is deeply equal. -/
theorem C09_contains (s e : Bytes) (xs : List (Val N)) (el : Val N) :
    (handle (N := N) .contains false [.val (.str s), .val (.str e)] = .ok (.bool true) ↔ ∃ pre post, s = pre ++ e ++ post) ∧
    handle .contains false [.val (.arr xs), .val el] = .ok (.bool (xs.any fun x => Val.deepEq x el)) := by
  refine ⟨?_, rfl⟩
  unfold handle
  simp only [Bool.false_eq_true, if_false, Res.ok.injEq, Val.bool.injEq]
  exact isInfix_iff e s

/-- `join` glues the strings with the separator between consecutive ones. -/
theorem C09_join (sep : Bytes) (ss : List Bytes) :
    handle (N := N) .join false [.val (.str sep), .val (.arr (ss.map .str))] = .ok (.str (Json.intercalate sep ss)) := by
  unfold handle
  simp only [Bool.false_eq_true, if_false, StrOrder.joinLoop_map_str]

/-- `type` names the JSON type. -/
theorem C09_type (n : N) (s : Bytes) (xs : List (Val N)) (kvs : List (Bytes × Val N)) (bv : Bool) :
    handle .type false [.val (.num n)] = .ok (str "number") ∧ handle (N := N) .type false [.val (.str s)] = .ok (str "string") ∧
    handle .type false [.val (.arr xs)] = .ok (str "array") ∧ handle .type false [.val (.obj kvs)] = .ok (str "object") ∧
    handle (N := N) .type false [.val .null] = .ok (str "null") ∧ handle (N := N) .type false [.val (.bool bv)] = .ok (str "boolean") :=
  ⟨rfl, rfl, rfl, rfl, rfl, rfl⟩

/-- `to_array` wraps a non-array in a one-element array and leaves arrays alone. -/
theorem C09_to_array (xs : List (Val N)) (v : Val N) (hv : ∀ ys, v ≠ .arr ys) :
    handle .toArray false [.val (.arr xs)] = .ok (.arr xs) ∧ handle .toArray false [.val v] = .ok (.arr [v]) := by
  refine ⟨rfl, ?_⟩
  cases v with
  | arr ys => exact absurd rfl (hv ys)
  | _ => rfl

/-- `to_number`: a number is itself, a string is parsed (null when it is not a finite number), anything else is null. -/
theorem C09_to_number (n : N) (s : Bytes) (v : Val N) (hv : (∀ m, v ≠ .num m) ∧ (∀ t, v ≠ .str t)) :
    handle .toNumber false [.val (.num n)] = .ok (.num n) ∧
    handle (N := N) .toNumber false [.val (.str s)] =
      .ok (match (NumOps.parse s : Option N) with | some m => if NumOps.isFinite m then .num m else .null | none => .null) ∧
    handle .toNumber false [.val v] = .ok .null := by
  refine ⟨rfl, ?_, ?_⟩
  · unfold handle
    simp only [Bool.false_eq_true, if_false]
    cases (NumOps.parse s : Option N) with
    | none => rfl
    | some m => by_cases hf : NumOps.isFinite m = true <;> simp [hf]
  · cases v with
    | num m => exact absurd rfl (hv.1 m)
    | str t => exact absurd rfl (hv.2 t)
    | _ => rfl

/-- `to_string`: a string is itself; any other value without NaN or an infinity in it (`Val.finite`)
    becomes its JSON text. -/
theorem C09_to_string (s : Bytes) (v : Val N) (hv : ∀ t, v ≠ .str t) (hf : v.finite = true) :
    handle (N := N) .toString false [.val (.str s)] = .ok (.str s) ∧
    handle .toString false [.val v] = .ok (.str (Json.encode v)) := by
  refine ⟨rfl, ?_⟩
  cases v with
  | str t => exact absurd rfl (hv t)
  | _ => unfold handle; simp [hf]

open Jmes.Json in
/-- … which reads back as the value: `decode (to_string v) = v`, given the number-text contract `NumCodec`, for a
    value as the decoder produces them (`okV`: strings and keys valid UTF-8, keys strictly ascending, numbers
    finite) and nested no deeper than the decoder's limit. -/
theorem C09_to_string_reads_back (hN : NumCodec N) (v : Val N) (hv : ∀ t, v ≠ .str t) (hf : v.finite = true)
    (hok : okV v) (hd : depthV v ≤ maxDepth) :
    ∃ txt, handle .toString false [.val v] = .ok (.str txt) ∧ (Json.decode txt : Option (Val N)) = some v :=
  ⟨Json.encode v, (C09_to_string [] v hv hf).2, decode_encode hN v hok hd⟩

open Jmes.StrOrder

/-- The order all these functions use on strings (`Val.bytesLt`, Go's `<`) is
    code-point order: on strings that are the UTF-8 encoding of Unicode scalar
    values, bytewise comparison is lexicographic comparison of the code points. -/
theorem C09_strings_compare_by_code_point (rs ts : List Nat)
    (hr : ∀ r ∈ rs, Utf8Order.Scalar r) (ht : ∀ t ∈ ts, Utf8Order.Scalar t) :
    Val.bytesLt (Utf8.encodeRunes rs) (Utf8.encodeRunes ts) = Utf8Order.lexLt rs ts :=
  Utf8Order.bytesLt_encodeRunes rs ts hr ht

/-- That order is a strict total order on all byte strings (valid UTF-8 or not). -/
theorem C09_string_order_is_strict_total :
    (∀ a : Bytes, Val.bytesLt a a = false) ∧
    (∀ a b c : Bytes, Val.bytesLt a b = true → Val.bytesLt b c = true → Val.bytesLt a c = true) ∧
    (∀ a b : Bytes, Val.bytesLt a b = true ∨ a = b ∨ Val.bytesLt b a = true) :=
  ⟨Val.bytesLt_irrefl, Val.bytesLt_trans, Val.bytesLt_total⟩

/-- `sort` on strings: a permutation of the input, ascending and stable (equal strings in particular keep their
    relative order) — the three laws of `C09_sort_numbers`, for `Val.bytesLt`. -/
theorem C09_sort_strings (ss : List Bytes) :
    (List.mergeSort ss leStr).Perm ss ∧ (List.mergeSort ss leStr).Pairwise (fun x y => Val.bytesLt y x = false) ∧
    ∀ ts : List Bytes, ts.Pairwise (fun a b => leStr a b = true) → ts.Sublist ss → ts.Sublist (List.mergeSort ss leStr) :=
  sort_by_key bytesLt_ord id ss

omit [NumOps N] in
/-- `leStr`, `leStrKey` unfolded: what `C09_sort_handler_strings` / `C09_sort_by_handler_strings` sort by. -/
theorem C09_leStr_def : leStr = (fun x y => !Val.bytesLt y x) ∧
    (leStrKey (N := N)) = (fun a b => !Val.bytesLt b.1 a.1) := ⟨rfl, rfl⟩

/-- The handler is that sort (an array of strings, empty or not). -/
theorem C09_sort_handler_strings (xs : List (Val N)) (ss : List Bytes) (h : allStrs xs = some ss) :
    handle .sort false [.val (.arr xs)] = .ok (.arr ((List.mergeSort ss leStr).map .str)) := by
  cases allStrs_eq_map xs ss h
  cases ss with
  | nil => exact (C09_sort_handler [] [] rfl).trans (by simp)
  | cons s ss =>
    have hn : allNums (List.map (Val.str (N := N)) (s :: ss)) = none := rfl
    unfold handle
    simp only [Bool.false_eq_true, if_false, toArrayNum, toArrayStr, hn, h]
    rfl

/-- … in the shape "an array whose elements are the strings `ss`". -/
theorem C09_sort_handler_string_array (ss : List Bytes) :
    handle (N := N) .sort false [.val (.arr (ss.map .str))] = .ok (.arr ((List.mergeSort ss leStr).map .str)) :=
  C09_sort_handler_strings _ ss (allStrs_map_str ss)

/-- `sort` on valid UTF-8 strings is the sort of the code point sequences by
    lexicographic code-point order. -/
theorem C09_sort_strings_by_code_point (rss : List (List Nat)) (h : ∀ rs ∈ rss, ∀ r ∈ rs, Utf8Order.Scalar r) :
    List.mergeSort (rss.map Utf8.encodeRunes) leStr =
      (List.mergeSort rss (fun a b => !Utf8Order.lexLt b a)).map Utf8.encodeRunes := by
  symm
  apply List.map_mergeSort
  intro a ha b hb
  simp only [leStr, C09_strings_compare_by_code_point b a (h b hb) (h a ha)]

omit [NumOps N] in
/-- `sort_by` with string keys: a stable ascending sort by key — the three laws of `C09_sort_by_is_stable_sort`,
    for `Val.bytesLt`. -/
theorem C09_sort_by_strings_is_stable_sort (ps : List (Bytes × Val N)) :
    (List.mergeSort ps leStrKey).Perm ps ∧ (List.mergeSort ps leStrKey).Pairwise (fun a b => Val.bytesLt b.1 a.1 = false) ∧
    ∀ a b, leStrKey a b = true → [a, b].Sublist ps → [a, b].Sublist (List.mergeSort ps leStrKey) := by
  have h := sort_by_key bytesLt_ord Prod.fst ps
  exact ⟨h.1, h.2.1, fun a b hab => h.2.2 [a, b] (List.pairwise_pair.mpr hab)⟩

/-- … and the keys are evaluated by applying the expression reference to each element (stated for two or more
    elements, all keys strings). -/
theorem C09_sort_by_handler_strings (f : Val N → Res (Val N)) (x y : Val N) (rest : List (Val N)) (k0 : Bytes)
    (ks : List (Bytes × Val N)) (h0 : f x = .ok (.str k0)) (hk : keysStr f (y :: rest) = .ok (some ks)) :
    sortBy f (x :: y :: rest) = .ok (.arr ((List.mergeSort ((k0, x) :: ks) leStrKey).map (·.2))) ∧
    ks.map (·.2) = y :: rest := by
  refine ⟨?_, keysOf_snd strOf f (keysStr_eq f _ ▸ hk)⟩
  simp only [sortBy, h0, hk]
  rfl

/-- `max` on strings returns an element of the array that no element exceeds. -/
theorem C09_max_strings (s : Bytes) (ss : List Bytes) :
    maxStr s ss ∈ s :: ss ∧ ∀ y ∈ s :: ss, Val.bytesLt (maxStr s ss) y = false := by
  rw [maxStr_eq_extLoopN]
  exact extLoopN_extreme bytesLt_ord s ss

/-- `min` on strings returns an element of the array that exceeds no element. -/
theorem C09_min_strings (s : Bytes) (ss : List Bytes) :
    minStr s ss ∈ s :: ss ∧ ∀ y ∈ s :: ss, Val.bytesLt y (minStr s ss) = false := by
  rw [minStr_eq_extLoopN]
  exact extLoopN_extreme bytesLt_ord.flip s ss

/-- The `max` / `min` handlers on a non-empty array of strings are those. -/
theorem C09_max_min_handler_strings (s : Bytes) (ss : List Bytes) :
    handle (N := N) .max false [.val (.arr ((s :: ss).map .str))] = .ok (.str (maxStr s ss)) ∧
    handle (N := N) .min false [.val (.arr ((s :: ss).map .str))] = .ok (.str (minStr s ss)) := by
  have hn : allNums (List.map (Val.str (N := N)) (s :: ss)) = none := rfl
  have hs := allStrs_map_str (N := N) (s :: ss)
  unfold handle
  simp only [Bool.false_eq_true, if_false, toArrayNum, toArrayStr, hn, hs, and_self]

/-- `max_by` with string keys: the FIRST element with maximal key. -/
theorem C09_max_by_strings_first_maximal (f : Val N → Res (Val N)) (key : Val N → Bytes) (x : Val N) (xs : List (Val N)) (r : Val N)
    (hf : ∀ y ∈ x :: xs, f y = .ok (.str (key y))) (h : extremeBy f true (x :: xs) = .ok r) :
    ∃ pre post, x :: xs = pre ++ r :: post ∧ (∀ y ∈ pre, Val.bytesLt (key y) (key r) = true) ∧
      ∀ y ∈ post, Val.bytesLt (key r) (key y) = false := by
  simp only [extremeBy, hf x (List.mem_cons_self ..), if_true, byLoopStr_eq] at h
  exact byLoop_first_split bytesLt_ord key h fun y hy => ⟨_, hf y (List.mem_cons_of_mem _ hy), rfl⟩

/-- `min_by` with string keys: the FIRST element with minimal key. -/
theorem C09_min_by_strings_first_minimal (f : Val N → Res (Val N)) (key : Val N → Bytes) (x : Val N) (xs : List (Val N)) (r : Val N)
    (hf : ∀ y ∈ x :: xs, f y = .ok (.str (key y))) (h : extremeBy f false (x :: xs) = .ok r) :
    ∃ pre post, x :: xs = pre ++ r :: post ∧ (∀ y ∈ pre, Val.bytesLt (key r) (key y) = true) ∧
      ∀ y ∈ post, Val.bytesLt (key y) (key r) = false := by
  simp only [extremeBy, hf x (List.mem_cons_self ..), Bool.false_eq_true, if_false, byLoopStr_eq] at h
  exact byLoop_first_split bytesLt_ord.flip key h fun y hy => ⟨_, hf y (List.mem_cons_of_mem _ hy), rfl⟩

/-! non-vacuity: `sort(["b", "a", "é", "a"])`, `max`, `min` on byte lists (é = C3 A9) -/
example : handle (N := N) .sort false [.val (.arr [.str [0x62], .str [0x61], .str [0xC3, 0xA9], .str [0x61]])] =
    .ok (.arr [.str [0x61], .str [0x61], .str [0x62], .str [0xC3, 0xA9]]) := by
  rw [C09_sort_handler_strings _ [[0x62], [0x61], [0xC3, 0xA9], [0x61]] rfl]
  simp [List.mergeSort, leStr, Val.bytesLt]
example : handle (N := N) .max false [.val (.arr [.str [0x62], .str [0xC3, 0xA9], .str [0x61]])] = .ok (.str [0xC3, 0xA9]) ∧
    handle (N := N) .min false [.val (.arr [.str [0x62], .str [0xC3, 0xA9], .str [0x61]])] = .ok (.str [0x61]) := by
  exact ⟨rfl, rfl⟩
/-- é (U+00E9) sorts before 世 (U+4E16) because 0xE9 < 0x4E16 -/
example : List.mergeSort ([[0x4E16], [0xE9]].map Utf8.encodeRunes) leStr = [[0xE9], [0x4E16]].map Utf8.encodeRunes := by
  rw [C09_sort_strings_by_code_point _ (by unfold Utf8Order.Scalar; decide)]
  simp [List.mergeSort, Utf8Order.lexLt]

/-! non-vacuity on the integer instance: `min([3,1,2])`, `min_by` / `max_by` with ties
    (keys 2,1,1,2: the FIRST minimal / maximal element), `length`, `merge`, `not_null`, `map` -/
example : handle (N := Int) .min false [.val (.arr [.num 3, .num 1, .num 2])] = .ok (.num 1) :=
  (C09_min_numbers (N := Int) 3 [1, 2]).2.2
example : handle (N := Int) .max false [.val (.arr [.num 3, .num 1, .num 2])] = .ok (.num 3) ∧
    handle (N := Int) .min false [.val (.arr [.num 3, .num 1, .num 2])] = .ok (.num 1) :=
  C09_max_min_handler_numbers (N := Int) _ 3 [1, 2] rfl
/-- elements are pairs [key, tag]; the expression is "the first component" -/
def exKey : Val Int → Res (Val Int)
  | .arr (k :: _) => .ok k
  | _ => .ok .null
example : handle (N := Int) .minBy true [.val (.arr [.arr [.num 2, .num 0], .arr [.num 1, .num 1], .arr [.num 1, .num 2], .arr [.num 2, .num 3]]), .ref exKey] =
    .ok (.arr [.num 1, .num 1]) ∧
  handle (N := Int) .maxBy true [.val (.arr [.arr [.num 1, .num 0], .arr [.num 2, .num 1], .arr [.num 2, .num 2], .arr [.num 1, .num 3]]), .ref exKey] =
    .ok (.arr [.num 2, .num 1]) := ⟨rfl, rfl⟩
example : handle (N := Int) .maxBy true [.val (.arr []), .ref exKey] = .ok .null := (C09_max_by_min_by_empty exKey).1
example : handle (N := Int) .length false [.val (.arr [.null, .null, .num 7])] = .ok (.num 3) ∧
    handle (N := Int) .length false [.val (.obj [([0x61], .null), ([0x62], .num 1)])] = .ok (.num 2) :=
  ⟨C09_length_array _, C09_length_object _⟩
example : handle (N := Int) .merge false [.val (.obj [([0x61], .num 1), ([0x62], .num 2)])] =
    .ok (.obj [([0x61], .num 1), ([0x62], .num 2)]) := rfl
example : handle (N := Int) .notNull false [.val .null, .val .null] = .ok .null :=
  C09_not_null_all_null [.null, .null] (by simp)
example : handle (N := Int) .map true [.ref exKey, .val (.arr [.arr [.num 5], .arr [], .num 1])] = .ok (.arr [.num 5, .null, .null]) := rfl

end Jmes.Props
