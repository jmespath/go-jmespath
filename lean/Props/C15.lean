/-
  Props.C15 — pipe is sequential composition and sub-expressions are
  referentially transparent (DESIGN.md §7, C15).
-/
import Proofs.PipeCompose
import Props.Bytes
namespace Jmes.Props
open Jmes Jmes.Interp

theorem C15_generated_table_ok : TableOK Generated.table = true := generated_table_ok
theorem C15_generated_sigs_ok : SigsOK Generated.functionTable Spec.functionTable = true := generated_sigs_ok
theorem C15_generated_lex_ok : LexTablesOK Model.lexTables Spec.lexTables = true := generated_lex_ok

variable {N : Type} [NumOps N]

/-- `A | B` on `d` is `B` on the result of `A` on `d`; it is an error (or a
    panic) exactly when one of the two steps is. -/
theorem C15_pipe_is_composition (ft : List FnEntry) (a b : Node N) (d : Val N) :
    eval ft (.pipe a b) d = (eval ft a d >>= fun v => eval ft b v) :=
  eval_pipe ft a b d

/-- When `A` yields `v`, `A | B` is `B` on `v`. -/
theorem C15_pipe_value (ft : List FnEntry) (a b : Node N) (d v : Val N) (h : eval ft a d = .ok v) :
    eval ft (.pipe a b) d = eval ft b v := by
  rw [eval_pipe, h]; rfl

/-- `A | B` fails with an error iff `A` does, or `A` yields `v` and `B` fails on `v` (a panic is not an error). -/
theorem C15_pipe_error_iff (ft : List FnEntry) (a b : Node N) (d : Val N) :
    (∃ e, eval ft (.pipe a b) d = .err e) ↔
      (∃ e, eval ft a d = .err e) ∨ (∃ v e, eval ft a d = .ok v ∧ eval ft b v = .err e) := by
  rw [eval_pipe]
  cases eval ft a d with
  | ok v => simp only [Res.bind_ok, reduceCtorEq, exists_false, false_or, Res.ok.injEq, exists_and_left, exists_eq_left']
  | err e => simp only [Res.bind_err, Res.err.injEq, exists_eq', reduceCtorEq, false_and, exists_false, or_false]
  | panic p => simp only [Res.bind_panic, reduceCtorEq, exists_false, false_and, or_self]

/-- One-hole contexts whose hole is evaluated against the root document. -/
inductive Ctx (N : Type) where
  | hole
  | cmpL (op : Cmp) (c : Ctx N) (r : Node N)
  | cmpR (op : Cmp) (l : Node N) (c : Ctx N)
  | orL (c : Ctx N) (r : Node N)
  | orR (l : Node N) (c : Ctx N)
  | andL (c : Ctx N) (r : Node N)
  | andR (l : Node N) (c : Ctx N)
  | not (c : Ctx N)
  | pipeL (c : Ctx N) (r : Node N)
  | subL (c : Ctx N) (r : Node N)
  | indexExprL (c : Ctx N) (r : Node N)
  | projL (c : Ctx N) (r : Node N)
  | valueProjL (c : Ctx N) (r : Node N)
  | filterL (c : Ctx N) (r cond : Node N)
  | flatten (c : Ctx N)
  | listAt (pre : List (Node N)) (c : Ctx N) (post : List (Node N))
  | hashAt (pre : List (Bytes × Node N)) (k : Bytes) (c : Ctx N) (post : List (Bytes × Node N))
  | argAt (name : Bytes) (pre : List (Bool × Node N)) (c : Ctx N) (post : List (Bool × Node N))

def Ctx.fill : Ctx N → Node N → Node N
  | .hole, e => e
  | .cmpL op c r, e => .cmp op (c.fill e) r
  | .cmpR op l c, e => .cmp op l (c.fill e)
  | .orL c r, e => .or (c.fill e) r
  | .orR l c, e => .or l (c.fill e)
  | .andL c r, e => .and (c.fill e) r
  | .andR l c, e => .and l (c.fill e)
  | .not c, e => .not (c.fill e)
  | .pipeL c r, e => .pipe (c.fill e) r
  | .subL c r, e => .sub (c.fill e) r
  | .indexExprL c r, e => .indexExpr (c.fill e) r
  | .projL c r, e => .proj (c.fill e) r
  | .valueProjL c r, e => .valueProj (c.fill e) r
  | .filterL c r cond, e => .filterProj (c.fill e) r cond
  | .flatten c, e => .flatten (c.fill e)
  | .listAt pre c post, e => .msList (pre ++ c.fill e :: post)
  | .hashAt pre k c post, e => .msHash (pre ++ (k, c.fill e) :: post)
  | .argAt name pre c post, e => .call name (pre ++ (false, c.fill e) :: post)

theorem evalList_congr (ft : List FnEntry) (pre post : List (Node N)) (x y : Node N) (d : Val N)
    (h : eval ft x d = eval ft y d) : evalList ft (pre ++ x :: post) d = evalList ft (pre ++ y :: post) d := by
  induction pre with
  | nil => simp only [List.nil_append, evalList_cons, h]
  | cons p ps ih => simp only [List.cons_append, evalList_cons, ih]

theorem evalKVs_congr (ft : List FnEntry) (pre post : List (Bytes × Node N)) (k : Bytes) (x y : Node N) (d : Val N)
    (h : eval ft x d = eval ft y d) : evalKVs ft (pre ++ (k, x) :: post) d = evalKVs ft (pre ++ (k, y) :: post) d := by
  induction pre with
  | nil => simp only [List.nil_append, evalKVs_cons, h]
  | cons p ps ih => obtain ⟨pk, pv⟩ := p; simp only [List.cons_append, evalKVs_cons, ih]

theorem evalArgs_congr (ft : List FnEntry) (pre post : List (Bool × Node N)) (x y : Node N) (d : Val N)
    (h : eval ft x d = eval ft y d) :
    evalArgs ft (pre ++ (false, x) :: post) d = evalArgs ft (pre ++ (false, y) :: post) d := by
  induction pre with
  | nil => simp only [List.nil_append, evalArgs_cons_val, h]
  | cons p ps ih =>
    obtain ⟨pb, pv⟩ := p
    cases pb <;> simp only [List.cons_append, evalArgs_cons_val, evalArgs_cons_ref, ih]

/-- Referential transparency: two sub-expressions with the same outcome on the
    root document are interchangeable in every root context … -/
theorem C15_context_congruence (ft : List FnEntry) (c : Ctx N) (e e' : Node N) (d : Val N)
    (h : eval ft e d = eval ft e' d) : eval ft (c.fill e) d = eval ft (c.fill e') d := by
  -- `fill` of the case's constructor is computed first (`whnf`): naming `Ctx.fill` to `simp` has Lean derive its equations
  induction c with (conv => congr <;> (arg 2; whnf))
  | hole => exact h
  | listAt pre c post ih => simp only [eval_msList, evalList_congr ft pre post _ _ d ih]
  | hashAt pre k c post ih => simp only [eval_msHash, evalKVs_congr ft pre post k _ _ d ih]
  | argAt name pre c post ih => simp only [eval_call, evalArgs_congr ft pre post _ _ d ih]
  | _ =>
    simp only [eval_cmp, eval_or, eval_and, eval_not, eval_pipe, eval_sub, eval_indexExpr, eval_proj,
      eval_valueProj, eval_filterProj, eval_flatten, *]

/-- … in particular a sub-expression may be replaced by the literal of its value. -/
theorem C15_substitute_literal (ft : List FnEntry) (c : Ctx N) (e : Node N) (d v : Val N)
    (h : eval ft e d = .ok v) : eval ft (c.fill e) d = eval ft (c.fill (.literal v)) d :=
  C15_context_congruence ft c e (.literal v) d h

open Jmes.Spec Jmes.Parser in
/-- `A | B` as the printer writes it parses to `Pipe(A, B)` (`A`, `B` concrete syntax trees that meet the
    printer theorem's side conditions `Parser.wf`). -/
theorem C15_written_pipe_is_pipe_node (l r : PE N) (hw : Parser.wf (.bin .pipe l r)) :
    parseTokens Generated.table (ppE (.bin .pipe l r) ++ [eofTok 0]) = .ok (.pipe (node l) (node r)) :=
  round_trip_generated _ hw

omit [NumOps N] in
open Jmes.Spec Jmes.Parser in
/-- … and when neither side needs parentheses the written form is literally `A`, `|`, `B`. -/
theorem C15_written_pipe_tokens (l r : PE N) (hl : ¬ l.rp < 1) (hr : ¬ r.level ≤ 1) :
    ppE (.bin .pipe l r) = ppE l ++ tk .pipe :: ppE r := by
  show ite _ _ _ ++ _ :: ite _ _ _ = _   -- `ppE` of a `.bin` by definition: naming `ppE` to `simp` costs its unfolding equations
  simp [BinOp.pow, BinOp.tok, hl, hr]

open Jmes.Spec Jmes.Parser in
/-- End to end for the written pipe: evaluate the parse of `A | B` = evaluate `B` on the value of `A`. -/
theorem C15_written_pipe_composes (ft : List FnEntry) (l r : PE N) (hw : Parser.wf (.bin .pipe l r)) (d : Val N) :
    (parseTokens Generated.table (ppE (.bin .pipe l r) ++ [eofTok 0]) >>= fun ast => eval ft ast d) =
      (match eval ft (node l) d with
       | .ok v => eval ft (node r) v
       | e => e) := by
  rw [C15_written_pipe_is_pipe_node l r hw]
  rfl

section AnyExpressions
open Jmes.Parser Jmes.Spec

theorem parse_consumes_all {As : List Token} {eA : Token} {a : Node N} (heA : eA.ty = .eof) (hnA : ∀ t ∈ As, t.ty ≠ .eof)
    (h : parseTokens Spec.table (As ++ [eA]) = .ok a) :
    Parser.R Spec.table (.expr 0 ⟨[], As ++ [eA]⟩) (.node a ⟨As.reverse, [eA]⟩) := by
  obtain ⟨p1, t, rest, hR, hafter, ht⟩ := Parser.R_of_parseTokens_ok Spec.table _ a h
  obtain ⟨seg, hseg, _, _⟩ := Parser.R_grammatical Spec.table hR
  have he := hseg.after
  rw [hafter] at he
  obtain ⟨rfl, rfl⟩ := last_of_append_cons he.symm hnA ht
  obtain rfl : eA = t := by simpa using he
  obtain ⟨b', a'⟩ := p1
  obtain rfl : a' = [eA] := hafter
  obtain rfl : b' = seg.reverse := by simpa using hseg.before
  exact hR

/-- **Pipe is sequential composition, for ARBITRARY expressions** (token level, table regenerated from
    /repo): if `A` compiles to `a` and `B` compiles to `b`, then `A | B` compiles, and on every document it
    evaluates to `b` applied to the result of `a` — an error (or a panic) exactly when one of the two
    steps is.  (The AST is `Pipe a b` up to the re-association of `B`'s own top-level pipes:
    `A | B1 | B2` is read `(A | B1) | B2`.)  No restriction to printed forms; `A | B` is to be shaped as
    the lexer's output (`TokensOK`: one end-of-input token, of empty text, and no position beyond its). -/
theorem C15_pipe_of_any_expressions (As Bs : List Token) (eA eB pt : Token) (a b : Node N) (total : Nat)
    (heA : eA.ty = .eof) (heB : eB.ty = .eof) (hpt : pt.ty = .pipe)
    (hnA : ∀ t ∈ As, t.ty ≠ .eof) (hnB : ∀ t ∈ Bs, t.ty ≠ .eof)
    (hA : parseTokens Generated.table (As ++ [eA]) = .ok a) (hB : parseTokens Generated.table (Bs ++ [eB]) = .ok b)
    (htoks : Lexer.TokensOK total (As ++ pt :: (Bs ++ [eB]))) :
    ∃ X, parseTokens Generated.table (As ++ pt :: (Bs ++ [eB])) = .ok X ∧
      ∀ (ft : List FnEntry) (d : Val N), eval ft X d = (eval ft a d >>= fun v => eval ft b v) := by
  rw [parseTokens_generated] at hA hB ⊢
  obtain ⟨X, hR, hev⟩ := Parser.pipe_of_parses heA heB hpt (parse_consumes_all heA hnA hA) (parse_consumes_all heB hnB hB)
  exact ⟨X, Parser.parseTokens_ok_of_R rfl hR ⟨eB, [], rfl, heB⟩ htoks, hev⟩

/-- Non-vacuity: the hypotheses of `C15_pipe_of_any_expressions` are met by `a[*].b` and `c || d`
    (whose parses come from the printer theorem). -/
example : ∃ X, parseTokens (N := Int) Generated.table
      ([tk .uident (b "a"), tk .lbracket, tk .star, tk .rbracket, tk .dot, tk .uident (b "b")] ++ tk .pipe ::
        ([tk .uident (b "c"), tk .or, tk .uident (b "d")] ++ [eofTok 0])) = .ok X ∧
      ∀ (ft : List FnEntry) (d : Val Int), eval ft X d =
        (eval ft (.proj (.field (b "a")) (.field (b "b"))) d >>= fun v => eval ft (.or (.field (b "c")) (.field (b "d"))) v) := by
  refine C15_pipe_of_any_expressions _ _ (eofTok 0) (eofTok 0) (tk .pipe) _ _ 0 rfl rfl rfl (by decide) (by decide)
    (round_trip_generated (.bstar (.ident (b "a")) (.dot (.ident (b "b")))) ⟨trivial, rfl, trivial⟩)
    (round_trip_generated (.bin .or (.ident (b "c")) (.ident (b "d"))) ⟨trivial, trivial⟩) ?_
  exact Lexer.tokensOK_of_pre (pre := [tk .uident (b "a"), tk .lbracket, tk .star, tk .rbracket, tk .dot, tk .uident (b "b"),
    tk .pipe, tk .uident (b "c"), tk .or, tk .uident (b "d")]) (by decide) (by decide)

end AnyExpressions

end Jmes.Props
