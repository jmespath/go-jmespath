/-
  Props.C08 — slices select what Python-style extended slicing selects, for
  all integers (DESIGN.md §7, C08).

  Model side: `Interp.eval … (.slice a b c)` → `Slice.slice` = util.go's
  computeSliceParams / capSlice / the two loops, with 64-bit wrap-around on
  every arithmetic operation, a panic on every out-of-range `slice[i]` and a
  bounded fuel whose exhaustion models a hang.
  Spec side: `Spec.pySlice` = Python's definition (indices start + n·step for
  0 ≤ n < ⌈(stop − start)/step⌉ after PySlice_AdjustIndices), no loop.
-/
import Props.Tables
import Proofs.Slice
import Proofs.GenSlice
import Proofs.EvalEq
import Proofs.ParserSafe
namespace Jmes.Props
open Jmes Jmes.Slice Jmes.Spec

theorem C08_generated_table_ok : TableOK Generated.table = true := generated_table_ok
theorem C08_generated_sigs_ok : SigsOK Generated.functionTable Spec.functionTable = true := generated_sigs_ok
theorem C08_generated_lex_ok : LexTablesOK Model.lexTables Spec.lexTables = true := generated_lex_ok

/-- 64-bit operands, as `strconv.Atoi` delivers them. -/
def OptInRange (v : Option Int) : Prop := ∀ x, v = some x → InRange x

/-- Main theorem: on an array of any length a Go slice can have, for every present or absent
    start/stop/step in the int64 range with step ≠ 0, the slice expression
    evaluates — without panic, hang or error — to exactly the elements Python's
    extended slicing selects, in that order. -/
theorem C08_slice_is_python_slice {N : Type} [NumOps N] (ft : List FnEntry) (xs : List (Val N))
    (a b c : Option Int) (hlen : InRange xs.length)
    (ha : OptInRange a) (hb : OptInRange b) (hc : OptInRange c) (h0 : c ≠ some 0) :
    Interp.eval ft (.slice a b c) (.arr xs)
      = .ok (.arr ((pySlice xs.length a b (c.getD 1)).filterMap (getIdx xs))) := by
  simp only [Interp.eval_slice, Interp.projectOver, Interp.arrElems, slice_eq_pySlice xs hlen ha hb h0,
    Res.bind_ok]

/-- Every index Python selects exists, so `filterMap` above drops nothing:
    the result has exactly one element per selected index. -/
theorem C08_every_selected_index_exists {α} (xs : List α) (a b : Option Int) (step : Int) (hs : step ≠ 0) :
    ((pySlice xs.length a b step).filterMap (getIdx xs)).length = (pySlice xs.length a b step).length := by
  have hb := pySlice_inbounds xs.length a b step hs
  generalize pySlice xs.length a b step = l at hb
  induction l with
  | nil => rfl
  | cons i rest ih =>
    have ⟨hi, hrest⟩ := List.forall_mem_cons.mp hb
    obtain ⟨x, hx⟩ := getIdx_some xs i hi
    simp only [List.filterMap_cons, hx, List.length_cons]
    rw [ih hrest]

theorem C08_getIdx_is_indexing {α} (xs : List α) (i : Nat) : getIdx xs (i : Int) = xs[i]? := by
  unfold getIdx
  have : ¬ ((i : Int) < 0) := by omega
  simp [this]

/-- A step of 0 is an error when applied to an array … -/
theorem C08_step_zero_is_error {N : Type} [NumOps N] (ft : List FnEntry) (xs : List (Val N)) (a b : Option Int) :
    ∃ e, Interp.eval ft (.slice a b (some 0)) (.arr xs) = .err e := by
  by_cases h : (9223372036854775807 : Int) < xs.length
  · exact ⟨.other "unreachable: len(slice) exceeds MaxInt64",
      by simp [Interp.eval_slice, Interp.projectOver, Interp.arrElems, Slice.slice, h]⟩
  · exact ⟨.other "Invalid slice, step cannot be 0",
      by simp [Interp.eval_slice, Interp.projectOver, Interp.arrElems, Slice.slice, computeSliceParams, stepOf, h]⟩

/-- … and slicing anything that is not an array yields null, whatever the parameters. -/
theorem C08_non_array_is_null {N : Type} [NumOps N] (ft : List FnEntry) (d : Val N) (a b c : Option Int)
    (hd : ∀ xs, d ≠ .arr xs) : Interp.eval ft (.slice a b c) d = .ok .null := by
  cases d <;> first | rfl | exact absurd rfl (hd _)

/-- No parameter value in the int64 range, however extreme, causes a panic or a hang, on any document
    (if an array, of a length a Go slice can have). -/
theorem C08_never_panics {N : Type} [NumOps N] (ft : List FnEntry) (d : Val N) (a b c : Option Int)
    (hlen : ∀ xs, d = .arr xs → InRange xs.length)
    (ha : OptInRange a) (hb : OptInRange b) (hc : OptInRange c) :
    (Interp.eval ft (.slice a b c) d).isPanic = false := by
  rw [Interp.eval_slice]
  cases d with
  | arr xs => exact Res.isPanic_bind (slice_np xs a b c ha hb) fun _ _ => rfl
  | _ => rfl

/-- The integers of a slice literal come from `strconv.Atoi`: always in the int64 range. -/
theorem C08_parsed_integers_in_range (s : Bytes) (v : Int) (h : Parser.atoi s = some v) : InRange v :=
  Parser.atoi_inRange h

/-! `Jmes/GeneratedSlice.lean` is the translation of util.go's `capSlice` and `computeSliceParams`
into Lean, produced from /repo's working tree by `tools/gotolean` on every run.  The theorems
below are about THAT text, not about the hand-written model: whatever the Go functions say
now is what is proved to be Python's slice arithmetic; the two loops of `slice` are translated by
pattern (see tools/gotolean) and proved equal to the model's loops. -/

/-- The translated `capSlice` is the model's, on every length of a Go slice and all int64 operands. -/
theorem C08_translated_capSlice (length actual step : Int) (hl0 : 0 ≤ length) (hl : InRange length)
    (ha : InRange actual) (hs : InRange step) :
    GenSlice.capSlice length actual step = Slice.capSlice length actual step :=
  gen_capSlice_eq hl0 hl ha

/-- The translated `computeSliceParams` succeeds exactly when the model's does, with the same three numbers. -/
theorem C08_translated_computeSliceParams (length : Int) (a b c : Option Int) (hl0 : 0 ≤ length) (hl : InRange length)
    (ha : OptInRange a) (hb : OptInRange b) (hc : OptInRange c) :
    (GenSlice.computeSliceParams length [GenSlice.param a, GenSlice.param b, GenSlice.param c]).toOption
      = (GenSlice.expected length a b c).toOption :=
  gen_computeSliceParams_eq length a b c hl0 hl ha hb

/-- Main theorem again, for the translated arithmetic followed by the loops: Python's slice
    (fuel `len + 1` is enough: the loop never runs out of it). -/
theorem C08_translated_slice_is_python_slice {α} (xs : List α) (a b c : Option Int) (hlen : InRange xs.length)
    (ha : OptInRange a) (hb : OptInRange b) (hc : OptInRange c) (h0 : c ≠ some 0) :
    GenSlice.slice (xs.length + 1) xs [GenSlice.param a, GenSlice.param b, GenSlice.param c]
      = .ok ((pySlice xs.length a b (c.getD 1)).filterMap (getIdx xs)) := by
  have hm := slice_eq_pySlice xs hlen ha hb h0
  have hg := gen_computeSliceParams_eq xs.length a b c (by omega) hlen ha hb
  have hp := computeSliceParams_eq (by omega) hlen ha hb h0
  simp only [Slice.slice, GenSlice.expected, hp, if_neg (Int.not_lt.mpr hlen.2)] at hm hg
  unfold GenSlice.slice
  cases hq : GenSlice.computeSliceParams (xs.length : Int) [GenSlice.param a, GenSlice.param b, GenSlice.param c] with
  | error m => rw [hq] at hg; cases hg
  | ok l =>
    rw [hq] at hg
    cases hg
    simpa [gen_loop1_eq, gen_loop2_eq] using hm

/-- The two translated loops are the model's loops (so what is proved about `Slice.slice` is proved about them). -/
theorem C08_translated_loops {α} (xs : List α) (start stop step : Int) (fuel : Nat) (i : Int) :
    GenSlice.sliceLoop1 xs start stop step fuel i = Slice.loopUp xs stop step fuel i ∧
    GenSlice.sliceLoop2 xs start stop step fuel i = Slice.loopDown xs stop step fuel i :=
  ⟨gen_loop1_eq fuel i, gen_loop2_eq fuel i⟩

/-- A zero step is an error with the translated code as well. -/
theorem C08_translated_step_zero_is_error {α} (xs : List α) (a b : Option Int) (hlen : InRange xs.length)
    (ha : OptInRange a) (hb : OptInRange b) (fuel : Nat) :
    ∃ e, GenSlice.slice fuel xs [GenSlice.param a, GenSlice.param b, GenSlice.param (some 0)] = .err e := by
  have hg := gen_computeSliceParams_eq xs.length a b (some 0) (by omega) hlen ha hb
  unfold GenSlice.slice
  cases hq : GenSlice.computeSliceParams (xs.length : Int) [GenSlice.param a, GenSlice.param b, GenSlice.param (some 0)] with
  | error m => exact ⟨_, rfl⟩
  | ok l =>
    rw [hq] at hg
    simp [GenSlice.expected, Slice.computeSliceParams, Slice.stepOf, Except.toOption] at hg

example : InRange ((List.range 5).length : Int) ∧ OptInRange (some (-6)) ∧ OptInRange none ∧ (some (-1) : Option Int) ≠ some 0 := by
  refine ⟨by unfold InRange; decide, ?_, ?_, by decide⟩
  · intro x h; cases h; unfold InRange; decide
  · intro x h; cases h

example : pySlice 5 none (some (-6)) (-1) = [4, 3, 2, 1, 0] := by decide
example : pySlice 4 none (some (-4)) (-1) = [3, 2, 1] := by decide
example : pySlice 3 (some 1) none 9223372036854775807 = [1] := by decide
example : Slice.slice [10, 11, 12, 13] (some (-9223372036854775808)) none none = .ok [10, 11, 12, 13] := by rfl
example : GenSlice.slice 5 [10, 11, 12, 13] [GenSlice.param (some (-9223372036854775808)), GenSlice.param none, GenSlice.param (some (-2))] = .ok ([] : List Nat) := by rfl
example : GenSlice.slice 5 [10, 11, 12, 13] [GenSlice.param none, GenSlice.param (some (-9223372036854775808)), GenSlice.param (some (-2))] = .ok [13, 11] := by rfl

end Jmes.Props
