/-
  Props.Tables — proof obligations on the facts regenerated from /repo
  (Jmes/Generated.lean).  They are re-checked on every run; a change of a
  binding power, of a constant passed to a parse function, of a signature or
  of a character table that is not behaviour-preserving makes one of the
  `by decide` below fail.  A harmless renumbering (same order) keeps them.
-/
import Jmes.Model
import Proofs.Lexer
import Proofs.Sigs
import Proofs.TableOK
import Spec.Tables
namespace Jmes.Props

theorem spec_table_ok : TableOK Spec.table = true := by decide
theorem generated_table_ok : TableOK Generated.table = true := by decide

theorem generated_sigs_ok : SigsOK Generated.functionTable Spec.functionTable = true := by decide +kernel

/-- Character classes agree with the specification's on every code point
    below 256 and on end of input.  Above 255 nothing depends on what the tables hold: `identTrail` answers
    `false` from 128 on by its first test, a shift count ≥ 64 makes `identStart` false whatever the mask
    (`identStart_range` in Props/C14.lean), and the last two conjuncts say that the other two tables have
    no key from 256 on. -/
def LexTablesOK (g s : Lexer.Tables) : Bool :=
  (List.range 256).all (fun r =>
    Lexer.identStart g.startBits r == Lexer.identStart s.startBits r
    && (match Lexer.identTrail g.trailBits r, Lexer.identTrail s.trailBits r with
        | .ok a, .ok c => a == c
        | _, _ => false)
    && Lexer.lookupNat r g.basic == Lexer.lookupNat r s.basic
    && g.white.contains r == s.white.contains r)
  && Lexer.identStart g.startBits (2 ^ 64 - 1) == false
  && g.basic.all (fun kv => decide (kv.1 < 256)) && g.white.all (fun r => decide (r < 256))

theorem generated_lex_ok : LexTablesOK Model.lexTables Spec.lexTables = true := by decide +kernel

theorem generated_lex_safe : Lexer.TablesSafe Model.lexTables := ⟨by decide, by decide⟩

theorem generated_eof_power : Generated.table.power .eof = 0 := by decide

theorem generated_same : Parser.SameDecisions Generated.table Spec.table :=
  sameDecisions_of_tableOK _ _ generated_table_ok spec_table_ok

theorem parseTokens_generated {N : Type} [NumOps N] (toks : List Token) :
    Parser.parseTokens (N := N) Generated.table toks = Parser.parseTokens Spec.table toks :=
  Parser.parseTokens_congr generated_same toks

end Jmes.Props
