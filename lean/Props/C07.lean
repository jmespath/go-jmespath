/-
  Props.C07 — truthiness, logical operators and comparators follow the
  specification (DESIGN.md §7, C07).  The truth definition (`Val.isFalse`) and the
  comparators' values (`compareVals`) are stated of the model and of the code as translated
  from /repo (`GenSlice.*`); the operators are stated of `Interp.eval`, the model of
  `treeInterpreter.Execute`, for every AST, document and function table.
-/
import Props.Tables
import Proofs.Value
import Proofs.EvalEq
import Proofs.GenIndex
namespace Jmes.Props
open Jmes Jmes.Interp

theorem C07_generated_table_ok : TableOK Generated.table = true := generated_table_ok
theorem C07_generated_sigs_ok : SigsOK Generated.functionTable Spec.functionTable = true := generated_sigs_ok
theorem C07_generated_lex_ok : LexTablesOK Model.lexTables Spec.lexTables = true := generated_lex_ok

variable {N : Type} [NumOps N]

/-- The JMESPath truth definition: exactly false, null, the empty string, the
    empty array and the empty object are false-like — in particular every
    number, 0 included, is true-like. -/
theorem C07_false_like_values (v : Val N) :
    v.isFalse = true ↔ (v = .null ∨ v = .bool false ∨ v = .str [] ∨ v = .arr [] ∨ v = .obj []) := by
  cases v with
  | null | num n => simp [Val.isFalse]
  | bool b => cases b <;> simp [Val.isFalse]
  | str l | arr l | obj l => cases l <;> simp [Val.isFalse]

theorem C07_numbers_are_true_like (n : N) : (Val.num n).isFalse = false := rfl

/-- ON THE CODE AS WRITTEN: `GenSlice.isFalse` is util.go's `isFalse` on decoded JSON, translated from /repo's
    source on every run (tools/gotolean: the clauses of its type switch; a float64 falls through both switches to
    `return false`).  It is false-like on exactly the five values of the truth definition. -/
theorem C07_translated_isFalse (v : Val N) :
    GenSlice.isFalse v = true ↔ (v = .null ∨ v = .bool false ∨ v = .str [] ∨ v = .arr [] ∨ v = .obj []) := by
  rw [gen_isFalse_eq]; exact C07_false_like_values v

theorem C07_translated_isFalse_is_the_models (v : Val N) : GenSlice.isFalse v = v.isFalse := gen_isFalse_eq v

/-- `<`, `<=`, `>`, `>=` compare two numbers numerically … -/
theorem C07_ordering_on_numbers (x y : N) :
    compareVals .lt (.num x) (.num y) = .bool (NumOps.lt x y) ∧ compareVals .lte (.num x) (.num y) = .bool (NumOps.le x y)
    ∧ compareVals .gt (.num x) (.num y) = .bool (NumOps.lt y x) ∧ compareVals .gte (.num x) (.num y) = .bool (NumOps.le y x) := by
  simp [compareVals]

/-- … and yield null when either operand is not a number. -/
theorem C07_ordering_on_non_numbers (op : Cmp) (hop : op ≠ .eq ∧ op ≠ .ne) (va vb : Val N)
    (h : (∀ x, va ≠ .num x) ∨ (∀ y, vb ≠ .num y)) : compareVals op va vb = .null := by
  cases op with
  | eq => exact absurd rfl hop.1
  | ne => exact absurd rfl hop.2
  | _ =>
    simp only [compareVals]
    split
    · rcases h with h | h <;> exact absurd rfl (h _)
    · rfl

/-- ON THE CODE AS WRITTEN: `GenSlice.compareVals` is the comparator clause of `Execute` (interpreter.go,
    `case ASTComparator:` after both operands are evaluated), translated statement by statement on every run.
    `==` / `!=` are deep equality and its negation on ALL values; the ordering comparators compare two numbers
    and are null as soon as one operand is not a number. -/
theorem C07_translated_comparators (l r : Val N) :
    GenSlice.compareVals .eq l r = .bool (Val.deepEq l r) ∧
    GenSlice.compareVals .ne l r = .bool (!Val.deepEq l r) ∧
    (∀ a b : N, l = .num a → r = .num b →
      GenSlice.compareVals .lt l r = .bool (NumOps.lt a b) ∧ GenSlice.compareVals .lte l r = .bool (NumOps.le a b) ∧
      GenSlice.compareVals .gt l r = .bool (NumOps.lt b a) ∧ GenSlice.compareVals .gte l r = .bool (NumOps.le b a)) ∧
    ((∀ a, l ≠ .num a) ∨ (∀ b, r ≠ .num b) →
      GenSlice.compareVals .lt l r = .null ∧ GenSlice.compareVals .lte l r = .null ∧
      GenSlice.compareVals .gt l r = .null ∧ GenSlice.compareVals .gte l r = .null) := by
  simp only [gen_compareVals_eq]
  refine ⟨rfl, rfl, fun a b hl hr => hl ▸ hr ▸ C07_ordering_on_numbers a b, fun h => ?_⟩
  exact ⟨C07_ordering_on_non_numbers .lt (by decide) l r h, C07_ordering_on_non_numbers .lte (by decide) l r h,
    C07_ordering_on_non_numbers .gt (by decide) l r h, C07_ordering_on_non_numbers .gte (by decide) l r h⟩

theorem C07_translated_comparators_are_the_models (op : Cmp) (l r : Val N) :
    GenSlice.compareVals op l r = compareVals op l r := gen_compareVals_eq op l r

/-- `a || b`: the value of `a` when it is true-like — whatever `b` is, even an
    expression that would fail: `b` is not evaluated — and otherwise the
    outcome of `b`.  The result is an operand value, not a boolean. -/
theorem C07_or (ft : List FnEntry) (a b : Node N) (d va : Val N) (ha : eval ft a d = .ok va) :
    eval ft (.or a b) d = if va.isFalse then eval ft b d else .ok va := by
  rw [eval_or, ha]; rfl

/-- `a && b`: the value of `a` when it is false-like (`b` not evaluated), otherwise the outcome of `b`. -/
theorem C07_and (ft : List FnEntry) (a b : Node N) (d va : Val N) (ha : eval ft a d = .ok va) :
    eval ft (.and a b) d = if va.isFalse then .ok va else eval ft b d := by
  rw [eval_and, ha]; rfl

/-- `!a` is a boolean: true exactly when `a` is false-like. -/
theorem C07_not (ft : List FnEntry) (a : Node N) (d va : Val N) (ha : eval ft a d = .ok va) :
    eval ft (.not a) d = .ok (.bool va.isFalse) := by
  rw [eval_not, ha]; rfl

/-- Comparators evaluate both operands and compare their values. -/
theorem C07_comparator (ft : List FnEntry) (op : Cmp) (a b : Node N) (d va vb : Val N)
    (ha : eval ft a d = .ok va) (hb : eval ft b d = .ok vb) :
    eval ft (.cmp op a b) d = .ok (compareVals op va vb) := by
  rw [eval_cmp, ha, hb]; rfl

/-- `==` and `!=` are deep JSON equality over all types: `a == b` is the boolean
    that is true exactly when the two values are equal, `a != b` its negation (for a number type
    meeting `NumLaws`: its `eq` is equality). -/
theorem C07_eq_is_deep_equality [NumLaws N] (va vb : Val N) :
    ∃ r : Bool, compareVals .eq va vb = .bool r ∧ compareVals .ne va vb = .bool (!r) ∧ (r = true ↔ va = vb) :=
  ⟨va.deepEq vb, rfl, rfl, Val.deepEq_iff va vb⟩

/-- … hence never equal across types (e.g. the number 1 and the string "1"). -/
theorem C07_never_equal_across_types [NumLaws N] (n : N) (s : Bytes) (b : Bool) (xs : List (Val N)) (kvs : List (Bytes × Val N)) :
    compareVals .eq (.num n) (.str s) = .bool false ∧ compareVals .eq (.num n) (.bool b) = .bool false
    ∧ compareVals .eq (.null : Val N) (.bool false) = .bool false ∧ compareVals .eq (.str s) (.arr xs) = .bool false
    ∧ compareVals .eq (.arr xs) (.obj kvs) = .bool false ∧ compareVals .eq (.null : Val N) (.str []) = .bool false := by
  simp [compareVals, Val.deepEq]

/-! Non-vacuity on the integer instance: the usual order; `==` across types and on objects. -/
example : compareVals .lt (.num (2 : Int)) (.num 10) = .bool true := by rfl
example : compareVals .eq (.num (1 : Int)) (.str [0x31]) = .bool false := by rfl
example : compareVals .eq (.obj [([0x78], (.null : Val Int))]) (.obj [([0x79], .null)]) = .bool false := by rfl

omit [NumOps N] in
/-- A filter keeps exactly the elements whose condition is true-like (then
    applies the right-hand side and drops nulls), in order. -/
theorem C07_filter_keeps_true_like (cond rhs : Val N → Res (Val N)) (cf rf : Val N → Val N) (xs : List (Val N))
    (hc : ∀ x ∈ xs, cond x = .ok (cf x)) (hr : ∀ x ∈ xs, rhs x = .ok (rf x)) :
    filterLoop cond rhs xs = .ok (dropNulls ((xs.filter (fun x => !(cf x).isFalse)).map rf)) :=
  filterLoop_ok cond rhs cf rf xs hc hr

end Jmes.Props
